import LithiumProofs.Rmslice
import LithiumProofs.Deletion
import LithiumProofs.Lines
import LithiumProofs.Load
import LithiumProofs.Symbol
import LithiumProofs.World
import LithiumProofs.Util
import LithiumProofs.Minimize
import LithiumProofs.MinLoop
import LithiumProofs.MinimizeSizes
import LithiumProofs.MinimizeOne
import LithiumProofs.PairsLoop
import LithiumProofs.PairsCand
import LithiumProofs.SplitJs
import LithiumProofs.SplitAttrs
import LithiumProofs.Cmdline
import LithiumProofs.Iter
import LithiumProofs.Summary
import LithiumProofs.PairsBound
import LithiumProofs.PairsFix
import LithiumProofs.SplitJsTok
import LithiumProofs.SplitJsNe
import LithiumProofs.PairsMove
import LithiumProofs.CoreBound
import LithiumProofs.CollapseBound
import LithiumProofs.SplitAttrsTag
import LithiumProofs.SplitJsSpec
import LithiumProofs.Rewrite
import LithiumProofs.TempDirNames
import LithiumProofs.SplitAttrsNext
import LithiumProofs.Alias
