/-
No two testcase objects ever share a list (heap model `Alias`), hence an operation on one object — also an
in-place edit of one of its lists — never changes what another object holds (C07, last clause).
-/
import LithiumModel.Alias

namespace Alias

/-- no sharing, and every address in use is below the allocation counter -/
structure Inv (h : Heap) : Prop where
  sep : ∀ (i j : Nat) (a b : Obj), h.objs[i]? = some a → h.objs[j]? = some b → i ≠ j → a.p ≠ b.p ∧ a.r ≠ b.r
  low : ∀ (i : Nat) (a : Obj), h.objs[i]? = some a → a.p < h.next ∧ a.r < h.next

theorem inv_init (parts : List Bytes) (flags : List Bool) : Inv (init parts flags) := by
  have h0 : ∀ i (a : Obj), (init parts flags).objs[i]? = some a → i = 0 ∧ a = ⟨0, 0⟩ := by
    intro i a hi
    cases i with
    | zero => exact ⟨rfl, (Option.some.inj hi).symm⟩
    | succ i => cases hi
  refine ⟨fun i j a b hi hj hne => ?_, fun i a hi => ?_⟩
  · exact absurd ((h0 i a hi).1.trans (h0 j b hj).1.symm) hne
  · cases (h0 i a hi).2
    exact ⟨Nat.one_pos, Nat.one_pos⟩

theorem upd_ne {α} (f : Nat → α) (a x : Nat) (v : α) (h : x ≠ a) : upd f a v x = f x := by
  simp [upd, h]

theorem upd_eq {α} (f : Nat → α) (a : Nat) (v : α) : upd f a v a = v := by
  simp [upd]

/-- the shape `copy` and `rmslice` share: a new object on two fresh addresses takes ONE place `k` of the object
table (a new last place, or an old one); what the lists hold plays no part -/
theorem inv_alloc (h h' : Heap) (hi : Inv h) (k : Nat) (hn : h'.next = h.next + 1)
    (ho : ∀ i, i ≠ k → h'.objs[i]? = h.objs[i]?) (hk : ∀ a, h'.objs[k]? = some a → a = ⟨h.next, h.next⟩) :
    Inv h' := by
  have old : ∀ i a, h'.objs[i]? = some a → i ≠ k → a.p < h.next ∧ a.r < h.next :=
    fun i a h1 hik => hi.low i a (ho i hik ▸ h1)
  refine ⟨fun i j a b h1 h2 hne => ?_, fun i a h1 => ?_⟩
  · by_cases hik : i = k <;> by_cases hjk : j = k
    · exact absurd (hik.trans hjk.symm) hne
    · have := old j b h2 hjk
      cases hk a (hik ▸ h1)
      exact ⟨(Nat.ne_of_lt this.1).symm, (Nat.ne_of_lt this.2).symm⟩
    · have := old i a h1 hik
      cases hk b (hjk ▸ h2)
      exact ⟨Nat.ne_of_lt this.1, Nat.ne_of_lt this.2⟩
    · exact hi.sep i j a b (ho i hik ▸ h1) (ho j hjk ▸ h2) hne
  · rw [hn]
    by_cases hik : i = k
    · cases hk a (hik ▸ h1)
      exact ⟨Nat.lt_succ_self _, Nat.lt_succ_self _⟩
    · have := old i a h1 hik
      exact ⟨Nat.lt_succ_of_lt this.1, Nat.lt_succ_of_lt this.2⟩

theorem step_inv (h : Heap) (op : Op) (hi : Inv h) : Inv (step h op) := by
  cases op with
  | copy o =>
    simp only [step]
    split
    · exact hi
    · refine inv_alloc h _ hi h.objs.length rfl (fun i hik => ?_) (fun a h1 => ?_)
      · rcases Nat.lt_or_gt_of_ne hik with hlt | hgt
        · exact List.getElem?_append_left hlt
        · rw [List.getElem?_eq_none (Nat.le_of_lt hgt), List.getElem?_eq_none]
          simpa using Nat.succ_le_of_lt hgt
      · simpa using h1.symm
  | rmslice o a b =>
    simp only [step]
    split
    · exact hi
    · split
      · exact hi
      · refine inv_alloc h _ hi o rfl (fun i hik => List.getElem?_set_ne (Ne.symm hik)) (fun a h1 => ?_)
        rw [List.getElem?_set_self'] at h1
        cases h2 : h.objs[o]? <;> simp_all
  -- in-place edits touch neither the object table nor the counter
  | setFlag o i v | setPart o i v =>
    simp only [step]
    split
    · exact hi
    · exact ⟨hi.sep, hi.low⟩

theorem run_inv (h : Heap) (ops : List Op) (hi : Inv h) : Inv (run h ops) := by
  induction ops generalizing h with
  | nil => exact hi
  | cons op ops ih => exact ih (step h op) (step_inv h op hi)

theorem view_eq_some {h : Heap} {j : Nat} {ob : Obj} (e : h.objs[j]? = some ob) :
    view h j = some (h.parts ob.p, h.flags ob.r) := by
  simp only [view, e, Option.map_some]

theorem view_congr {h h' : Heap} {j : Nat} {ob : Obj} (e : h.objs[j]? = some ob) (e' : h'.objs[j]? = some ob)
    (ep : h'.parts ob.p = h.parts ob.p) (ef : h'.flags ob.r = h.flags ob.r) : view h' j = view h j := by
  rw [view_eq_some e, view_eq_some e', ep, ef]

/-- an operation changes no object but its target; `copy` does not change its target either (second disjunct) -/
theorem step_others (h : Heap) (op : Op) (hi : Inv h) (j : Nat) (hj : j < h.objs.length)
    (hne : j ≠ target op ∨ ∃ o, op = .copy o) : view (step h op) j = view h j := by
  obtain ⟨objj, hoj⟩ : ∃ x, h.objs[j]? = some x := ⟨h.objs[j], List.getElem?_eq_getElem hj⟩
  have hlow := hi.low j objj hoj
  have hcopy : ∀ o, view (step h (.copy o)) j = view h j := by
    intro o
    simp only [step]
    split
    · rfl
    · exact view_congr hoj ((List.getElem?_append_left hj).trans hoj) (upd_ne _ _ _ _ (Nat.ne_of_lt hlow.1))
        (upd_ne _ _ _ _ (Nat.ne_of_lt hlow.2))
  rcases hne with hjo | ⟨o, rfl⟩
  · cases op with
    | copy o => exact hcopy o
    | rmslice o a b =>
      simp only [step]
      split
      · rfl
      · split
        · rfl
        · exact view_congr hoj ((List.getElem?_set_ne (Ne.symm hjo)).trans hoj) (upd_ne _ _ _ _ (Nat.ne_of_lt hlow.1))
            (upd_ne _ _ _ _ (Nat.ne_of_lt hlow.2))
    | setFlag o i v =>
      simp only [step]
      cases ho : h.objs[o]? with
      | none => rfl
      | some ob => exact view_congr hoj hoj rfl (upd_ne _ _ _ _ (hi.sep j o objj ob hoj ho hjo).2)
    | setPart o i v =>
      simp only [step]
      cases ho : h.objs[o]? with
      | none => rfl
      | some ob => exact view_congr hoj hoj (upd_ne _ _ _ _ (hi.sep j o objj ob hoj ho hjo).1) rfl
  · exact hcopy o

end Alias
