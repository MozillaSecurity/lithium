/-
Behind C17: tail isolation for the command-line model; one fact each about `classify` and `processArgs`.
-/
import LithiumModel.Cmdline

namespace Cmdline

/-- `--`: it and everything after it go to the REMAINDER positional -/
abbrev dd : Tok := ['-', '-']

/-- running the loop on the block `ws` alone gives the state from which what follows is parsed, or the error -/
def Local (t : Table) (ws : List Tok) : Prop :=
  ∀ p rest, parseLoop t (ws ++ rest) p =
    match parseLoop t ws p with
    | .ok p' => parseLoop t rest p'
    | .error e q => .error e q

/-- does this token start a two-token option (`--opt value`)? -/
def needsValue (t : Table) (s : Tok) : Prop :=
  ∃ o n, classify t s = .opt o n none ∧ (o.nargs == 0) = false

theorem classify_ne_ambiguous (t : Table) (s : Tok) (h : t.errorsPass = true) : classify t s ≠ .ambiguous := by
  fun_cases classify t s
  -- the one branch that returns `.ambiguous` has the guard `tuples.length > 1 && !t.errorsPass`
  case case6 hguard => simp [h] at hguard
  all_goals nofun

theorem local_single (t : Table) (s : Tok) (h1 : s ≠ dd) (h2 : ¬ needsValue t s) (h3 : classify t s ≠ .arg) :
    Local t [s] := by
  intro p rest
  have hdd : ¬ (s == dd) = true := by simpa using h1
  -- both sides run the same body; where it recurses, the right side is at the end of its list
  rw [List.singleton_append, parseLoop, parseLoop, if_neg hdd, if_neg hdd]
  cases hc : classify t s with
  | arg => exact absurd hc h3
  | ambiguous => rfl
  | unknown => rfl
  | opt o n ex =>
    -- the leaves follow the branches of `parseLoop` in source order
    cases ex with
    | none =>
      have h0 : (o.nargs == 0) = true := by
        cases hn : (o.nargs == 0) with
        | true => rfl
        | false => exact absurd ⟨o, n, hc, hn⟩ h2
      simp only [h0, if_true]
      -- flag
      split <;> rfl
    | some ex =>
      simp only
      by_cases hn : (o.nargs == 1) = true
      · -- `--opt=value`
        rw [if_pos hn, if_pos hn]
        split
        · rfl
        · split <;> rfl
      · rw [if_neg hn, if_neg hn]
        split
        · -- cluster `-xyz`
          split
          · split <;> rfl
          · rfl
        · -- flag with `=value`
          rfl

theorem local_pair (t : Table) (s v : Tok) (h1 : s ≠ dd) (h2 : needsValue t s) : Local t [s, v] := by
  obtain ⟨o, n, hc, hn⟩ := h2
  intro p rest
  have hdd : ¬ (s == dd) = true := by simpa using h1
  -- unfold the outer call of each side only, not the one on `v :: rest` inside the body
  conv => lhs; rw [List.cons_append, List.cons_append, List.nil_append, parseLoop, if_neg hdd, hc]
  conv => rhs; rw [parseLoop, if_neg hdd, hc]
  simp only [hn, Bool.false_eq_true, if_false]
  split
  · -- the value is `--`
    rfl
  · split
    · -- an argument
      split
      · rfl
      · split <;> rfl
    -- an option
    all_goals rfl

/-- `pre` is cut into blocks that are `Local` and `name` is the first token that is no option: what
follows it lands in `remainder` untouched, or the error is the prefix's own -/
theorem tail_isolation (t : Table) (pre : List (List Tok)) (hpre : ∀ b ∈ pre, Local t b) (name : Tok)
    (hname : classify t name = .arg) (p0 : Parsed) :
    (∃ p' : Parsed, ∀ tail, parseLoop t (pre.flatten ++ name :: tail) p0 = .ok { p' with remainder := name :: tail }) ∨
    (∃ e q, ∀ tail, parseLoop t (pre.flatten ++ name :: tail) p0 = .error e q) := by
  induction pre generalizing p0 with
  | nil =>
    left
    refine ⟨p0, fun tail => ?_⟩
    simp only [List.flatten_nil, List.nil_append]
    rw [parseLoop]
    by_cases hd : (name == dd) = true
    · rw [if_pos hd]
    · rw [if_neg hd, hname]
  | cons b bs ih =>
    simp only [List.flatten_cons, List.append_assoc, hpre b (by simp) p0]
    cases parseLoop t b p0 with
    | ok p1 => exact ih (fun b' h' => hpre b' (by simp [h'])) p1
    | error e q => exact Or.inr ⟨e, q, fun _ => rfl⟩

theorem processArgs_testcase (earlyT : Table) (mainT : Tok → Tok → Table) (argv : List Tok)
    (atom strategy : Tok) (ns : List (Tok × Tok)) (tc cond : Tok) (cargs : List Tok)
    (h : processArgs earlyT mainT argv = .ok atom strategy ns tc cond cargs) :
    tc = (lastValue ns "testcase".toList).getD ((cond :: cargs).getLast?.getD cond) := by
  revert h
  fun_cases processArgs earlyT mainT argv
  -- every other branch exits
  all_goals first | (intro h; cases h) | skip
  all_goals intro h; injection h with h1 h2 h3 h4 h5 h6; subst h1 h2 h3 h4 h5 h6
  -- `htc`: the equation for `lastValue ns "testcase"` from the final `match` of `processArgs`
  · next htc => rw [htc]; rfl
  · next htc => rw [htc]; rfl

end Cmdline
