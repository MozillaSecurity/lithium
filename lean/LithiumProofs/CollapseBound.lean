/-
minimize-collapse-brace terminates against every test (C09).  The re-load of a collapsed text may
have MORE atoms than the testcase it replaces (finding `collapse-regrows-atoms`), so the size in the
measure of `MinLoop.lean` is the number of BYTES: deletions shorten the file, collapsing never
lengthens it, and there are never more atoms than bytes.
-/
import LithiumProofs.MinLoop
import LithiumModel.Load

namespace Strat
open Testcase

/-- a match has at least 3 bytes and is replaced by the 3 bytes `{ }` -/
theorem collapseSub_length (f : Nat) (d : Bytes) : (collapseSub f d).length ≤ d.length := by
  induction f generalizing d with
  | zero => simp [collapseSub]
  | succ f ih =>
    cases d with
    | nil => simp [collapseSub]
    | cons c rest =>
      unfold collapseSub
      split
      · simp only
        split
        · rename_i hlt
          split
          · rename_i r' hr
            have := ih r'
            rw [hr] at hlt
            simp only [List.length_cons] at hlt ⊢
            omega
          · have := ih rest
            simp only [List.length_cons]; omega
        · have := ih rest
          simp only [List.length_cons]; omega
      · have := ih rest
        simp only [List.length_cons]; omega

theorem len_le_content (t : Testcase) (hne : ∀ p ∈ t.parts, p ≠ []) : t.len ≤ t.content.length := by
  have h1 : t.len ≤ t.parts.length := by unfold len; omega
  have h2 : 0 + t.parts.length ≤ t.parts.flatten.length + 0 := sublist_flatten_length (List.nil_sublist _) hne
  unfold content
  simp only [List.length_append]
  omega

/-- what the proof needs of the loader that re-splits the collapsed text (C06) -/
def ReloadOK (reload : Bytes → Option Testcase) : Prop :=
  ∀ d t', reload d = some t' → t'.WF ∧ (∀ p ∈ t'.parts, p ≠ []) ∧ t'.content = d

theorem sizeOK_bytes : SizeOK (fun t => ∀ p ∈ t.parts, p ≠ []) (fun t => t.content.length) where
  len := fun t _ hne => len_le_content t hne
  rm := fun t s e h hne h0 hse hel => by
    obtain ⟨a, b⟩ := rmslice_shorter h hne h0 hse hel
    exact ⟨b, a⟩

theorem collapsePost_cases (reload : Bytes → Option Testcase) (o : Oracle) (it : It) :
    collapsePost reload o it = it ∨
    ∃ newTc mk,
      reload (it.best.before ++ collapseSub (it.best.parts.flatten.length + 1) it.best.parts.flatten
        ++ it.best.after) = some newTc ∧
      Logged it newTc mk ∧ collapsePost reload o it = (it.try o newTc mk).2 := by
  unfold collapsePost
  simp only
  split
  · exact Or.inl rfl
  · split
    · exact Or.inl rfl
    · rename_i newTc hre
      exact Or.inr ⟨newTc, _, hre, fun _ => ⟨rfl, rfl, rfl⟩, rfl⟩

theorem collapsePost_ok (reload : Bytes → Option Testcase) (hr : ReloadOK reload) (o : Oracle) :
    PostOK (fun t => ∀ p ∈ t.parts, p ≠ []) (fun t => t.content.length) 1 (collapsePost reload o) := by
  intro it hwf hne h0
  have same : ∀ it' : It, it'.best = it.best → Counts 1 it it' →
      PostStep (fun t => ∀ p ∈ t.parts, p ≠ []) (fun t => t.content.length) 1 it it' :=
    fun it' hb hc => ⟨hc, hb ▸ hwf, hb ▸ hne, hb ▸ Nat.le_refl _, Or.inl (hb ▸ h0)⟩
  rcases collapsePost_cases reload o it with e | ⟨newTc, mk, hre, -, e⟩ <;> rw [e]
  · exact same it rfl ⟨Nat.le_succ _, rfl, rfl⟩
  · obtain ⟨r1, r2, r3⟩ := hr _ _ hre
    have hlen : newTc.content.length ≤ it.best.content.length := by
      rw [r3]
      have := collapseSub_length (it.best.parts.flatten.length + 1) it.best.parts.flatten
      unfold content
      simp only [List.length_append]
      omega
    rcases try_eq it o newTc mk with ⟨-, e⟩ | ⟨-, -, e⟩ | ⟨-, -, e⟩ <;> rw [e]
    · exact same _ rfl ⟨Nat.le_succ _, rfl, rfl⟩
    · exact ⟨⟨Nat.le_refl _, rfl, rfl⟩, r1, r2, hlen, Or.inr (by simp)⟩
    · exact same _ rfl ⟨Nat.le_refl _, rfl, rfl⟩

theorem collapsePost_frame (reload : Bytes → Option Testcase) (o : Oracle) (orig : Testcase) (it : It)
    (hre : ∀ x t', reload (orig.before ++ x ++ orig.after) = some t' →
      t'.before = orig.before ∧ t'.after = orig.after)
    (h : AllT (SameFrame orig) it) : AllT (SameFrame orig) (collapsePost reload o it) := by
  rcases collapsePost_cases reload o it with e | ⟨newTc, mk, hr, hlog, e⟩ <;> rw [e]
  · exact h
  · rw [h.best.1, h.best.2] at hr
    exact try_allT _ it o newTc mk h (hre _ _ hr) hlog

theorem reloadOK_of_roundtrip (ld : Bytes → Except Load.Err Testcase)
    (hld : ∀ d t', ld d = .ok t' → t'.content = d ∧ (∀ p ∈ t'.parts, p ≠ []) ∧ t'.WF) :
    ReloadOK (fun d => (ld d).toOption) := by
  intro d t' hd
  cases hx : ld d with
  | error e => simp [hx, Except.toOption] at hd
  | ok t0 =>
    simp only [hx, Except.toOption, Option.some.injEq] at hd
    subst hd
    obtain ⟨a, b, c⟩ := hld d t0 hx
    exact ⟨c, b, a⟩

/-- `(k+1)·Φ + k` of `minLoop_bound` with `k = 1` (one test in the callback), `Φ` bounded by
`minInit_Phi_le` in the number of bytes, `+ 1` for the initial check -/
theorem collapse_bound (reload : Bytes → Option Testcase) (hr : ReloadOK reload) (cfg : Cfg) (o : Oracle)
    (clk : Clock) (t : Testcase) (h : t.WF) (hne : ∀ p ∈ t.parts, p ≠ []) (hmax : 1 ≤ cfg.max) :
    (collapse reload cfg o clk t).outOfFuel = false ∧ (collapse reload cfg o clk t).internalError = false ∧
    (collapse reload cfg o clk t).nTests + 1
      ≤ 2 * ((t.content.length + Nat.log2 (t.content.length + 1) + 2) * (t.content.length + 1)) + 2 := by
  have hl1 := log2_start_le cfg.max t.len
  have hlc := len_le_content t hne
  have hinv : LoopInv (fun t => ∀ p ∈ t.parts, p ≠ []) (fun t => t.content.length) t.content.length
      (minInit cfg t) { best := t } :=
    ⟨(minInit_inv cfg t h hmax).mono hlc, hne, Nat.le_refl _⟩
  have hphi := minInit_Phi_le cfg t (fun t => t.content.length) t.content.length
    (Nat.log2 (t.content.length + 1)) (Nat.le_refl _) hlc
    (Nat.le_trans hl1 (Util.log2_mono (Nat.succ_le_succ hlc)))
  obtain ⟨b1, b2, b3⟩ := minLoop_bound (cfg := cfg) (o := o) (clk := clk) (stopAt := stopAt cfg clk)
    sizeOK_bytes (collapsePost_ok reload hr o) (collapseFuel t) _ _ hinv
    (Nat.lt_of_le_of_lt hphi (fuel_enough t.content.length 6 8 (by omega) (by omega)))
  refine ⟨b1, b2, ?_⟩
  have h0 : ({ best := t } : It).nTests = 0 := rfl
  rw [h0] at b3
  unfold collapse
  omega

end Strat
