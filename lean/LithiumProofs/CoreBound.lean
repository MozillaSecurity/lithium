/-
C10 on the list `R best` of reducible atoms.  Exact core: an accepted deletion from which no single
atom can go keeps exactly the core atoms.  Number of tests: the sweep cuts `R best` as `A ++ S`
(still to be swept / swept); a block that has to stay contains a core atom, and a potential
(candidates left in this round plus a budget for the later rounds) pays for every test.
-/
import LithiumProofs.MinimizeOne
import LithiumProofs.MinLoop

namespace Strat
open Testcase

/-! ### The list `R` of reducible atoms: a candidate deletes a block of it -/

theorem R_rmslice (t : Testcase) (h : t.WF) (s e : Int) (h0 : 0 ≤ s) (hse : s ≤ e) (hel : e ≤ (t.len : Int)) :
    R (t.rmslice s e) = (R t).take s.toNat ++ (R t).drop e.toNat :=
  R_rmslice' h h0 hse

theorem R_rmslice_block (t b : Testcase) (hd : IsDel t b) (A B S : List Bytes) (hR : R b = A ++ (B ++ S)) :
    IsDel t (b.rmslice (A.length : Int) ((A.length + B.length : Nat) : Int)) ∧
      R (b.rmslice (A.length : Int) ((A.length + B.length : Nat) : Int)) = A ++ S := by
  have h0 : (0 : Int) ≤ (A.length : Int) := Int.natCast_nonneg _
  have hse : (A.length : Int) ≤ ((A.length + B.length : Nat) : Int) := Int.ofNat_le.2 (Nat.le_add_right _ _)
  refine ⟨hd.rmslice h0 hse, ?_⟩
  rw [R_rmslice' hd.wf h0 hse, hR, Int.toNat_natCast, Int.toNat_natCast, List.take_left, ← List.append_assoc,
    List.drop_left' List.length_append]

theorem mem_parts_iff_R (t c : Testcase) (hdel : IsDel t c) (hwf : t.WF) (hnd : t.parts.Nodup) (p : Bytes)
    (hp : (p, true) ∈ t.parts.zip t.reducible) : p ∈ c.parts ↔ p ∈ R c := by
  constructor
  · intro hm
    rw [← zip_map_fst _ hdel.wf] at hm
    obtain ⟨⟨q, b⟩, hx, hq⟩ := List.mem_map.mp hm
    simp only at hq
    subst hq
    have hx' := hdel.sublist.subset hx
    have := Util.fst_inj_of_nodup (t.parts.zip t.reducible) (by rw [zip_map_fst _ hwf]; exact hnd) (q, b) (q, true) hx' hp rfl
    have hb : b = true := by injection this
    subst hb
    exact (mem_R_iff c q).mpr hx
  · intro hm
    exact (R_sublist_parts c hdel.wf).subset hm

theorem R_nodup {t c : Testcase} (hdel : IsDel t c) (hwf : t.WF) (hnd : t.parts.Nodup) : (R c).Nodup :=
  hnd.sublist ((R_sublist_parts c hdel.wf).trans (hdel.parts_sublist hwf))

theorem split_last {α : Type} (l : List α) (c : Nat) (h : c ≤ l.length) : ∃ A B, l = A ++ B ∧ B.length = c :=
  ⟨l.take (l.length - c), l.drop (l.length - c), (List.take_append_drop _ _).symm, by rw [List.length_drop]; omega⟩

theorem sublist_eq_filter {α} (P : α → Bool) (l' l : List α) (hs : l'.Sublist l) (hn : l.Nodup)
    (h : ∀ x ∈ l, x ∈ l' ↔ P x = true) : l' = l.filter P := by
  -- `l'` is a sub-list of `l.filter P` and has all of its elements, which are distinct
  have hsub := hs.filter P
  rw [List.filter_eq_self.2 fun x hx => (h x (hs.subset hx)).1 hx] at hsub
  exact hsub.eq_of_length_le ((hn.sublist List.filter_sublist).length_le_of_subset fun x hx =>
    (h x (List.mem_filter.1 hx).1).2 (List.mem_filter.1 hx).2)

/-- the number of core atoms in `l` -/
def cc (core : List Bytes) (l : List Bytes) : Nat := l.countP (fun p => core.contains p)

theorem cc_append (core a b : List Bytes) : cc core (a ++ b) = cc core a + cc core b := by
  unfold cc; exact List.countP_append

theorem cc_le_length (core l : List Bytes) : cc core l ≤ l.length := by
  unfold cc; exact List.countP_le_length

theorem cc_pos_of_mem (core l : List Bytes) (p : Bytes) (hp : p ∈ core) (hl : p ∈ l) : 1 ≤ cc core l := by
  unfold cc
  exact List.countP_pos_iff.mpr ⟨p, hl, by simpa using hp⟩

theorem nodup_subset_length {α : Type} [DecidableEq α] (l m : List α) (hn : l.Nodup) (hs : ∀ x ∈ l, x ∈ m) :
    l.length ≤ m.length :=
  hn.length_le_of_subset hs

theorem cc_le_core (core l : List Bytes) (hn : l.Nodup) : cc core l ≤ core.length := by
  unfold cc
  rw [List.countP_eq_length_filter]
  apply nodup_subset_length _ _ (hn.sublist List.filter_sublist)
  intro x hx
  have := (List.mem_filter.mp hx).2
  simpa using this

theorem all_core_of_cc (core l : List Bytes) (h : l.length ≤ cc core l) : ∀ p ∈ l, p ∈ core := by
  unfold cc at h
  have : l.countP (fun p => core.contains p) = l.length := Nat.le_antisymm List.countP_le_length h
  rw [List.countP_eq_length] at this
  intro p hp
  simpa using this p hp

/-- `l = A ++ S`: `A`, of length `chunk_end`, is still to be swept in this round, `S` has been swept; at
every size but 2 (which slides by one atom) one atom in `cs` of `S` is a core atom, because a block
that stayed contains one -/
abbrev Swept (core : List Bytes) (cs : Nat) (e : Int) (l : List Bytes) : Prop :=
  ∃ A S, l = A ++ S ∧ e = (A.length : Int) ∧ (cs ≠ 2 → S.length ≤ cs * cc core S)

theorem block_core (core A B S : List Bytes) (hin : ∀ p ∈ core, p ∈ A ++ (B ++ S))
    (hn : ¬ ∀ p ∈ core, p ∈ A ++ S) : ∃ p, p ∈ core ∧ p ∈ B := by
  simp only [Classical.not_forall] at hn
  obtain ⟨p, hp, hpn⟩ := hn
  have hpn := not_or.mp (mt List.mem_append.mpr hpn)
  exact ⟨p, hp, (List.mem_append.mp ((List.mem_append.mp (hin p hp)).resolve_left hpn.1)).resolve_right hpn.2⟩

theorem dense_block (core A B S : List Bytes) (cs : Nat) (hin : ∀ p ∈ core, p ∈ A ++ (B ++ S))
    (hn : ¬ ∀ p ∈ core, p ∈ A ++ S) (hl : B.length = cs) (h : S.length ≤ cs * cc core S) :
    (B ++ S).length ≤ cs * cc core (B ++ S) := by
  obtain ⟨p, hp, hB⟩ := block_core core A B S hin hn
  have := Nat.mul_le_mul_left cs (cc_pos_of_mem core B p hp hB)
  rw [List.length_append, cc_append, Nat.mul_add]
  omega

theorem round_end_length (core A S : List Bytes) (cs : Nat) (hnd : (A ++ S).Nodup) (hA : A.length < cs)
    (hS : S.length ≤ cs * cc core S) : (A ++ S).length < cs * (core.length + 1) := by
  have := Nat.mul_le_mul_left cs (cc_le_core core S (List.nodup_append.mp hnd).2.1)
  rw [List.length_append, Nat.mul_succ]
  omega

theorem not_all_core (core l l' : List Bytes) (hn : l.Nodup) (hcn : core.Nodup) (hsub : ∀ p ∈ core, p ∈ l')
    (hlt : l'.length < l.length) : ¬ l.length ≤ cc core l := fun h =>
  Nat.lt_irrefl _ (Nat.lt_of_le_of_lt
    (Nat.le_trans (Nat.le_trans h (cc_le_core core l hn)) (nodup_subset_length core l' hcn hsub)) hlt)

/-! ### The exact core: what a 1-minimal accepted deletion keeps -/

/-- distinct atoms, and a test that accepts a deletion of `t` iff it still has every core atom
(`CoreTest` of C10.lean) -/
structure CoreHyp (f : Bytes → Bool) (t : Testcase) (core : List Bytes) : Prop where
  wf : t.WF
  nd : t.parts.Nodup
  cnd : core.Nodup
  red : ∀ p ∈ core, (p, true) ∈ t.parts.zip t.reducible
  test : ∀ c, IsDel t c → (f c.content = true ↔ ∀ p ∈ core, p ∈ c.parts)

/-- takes the fields of `CoreHyp` one by one: the exact-core half has no `core.Nodup` -/
theorem coreTest_R {f : Bytes → Bool} {t : Testcase} {core : List Bytes} (hwf : t.WF) (hnd : t.parts.Nodup)
    (hred : ∀ p ∈ core, (p, true) ∈ t.parts.zip t.reducible)
    (hf : ∀ c, IsDel t c → (f c.content = true ↔ ∀ p ∈ core, p ∈ c.parts))
    (c : Testcase) (hc : IsDel t c) : f c.content = true ↔ ∀ p ∈ core, p ∈ R c := by
  rw [hf c hc]
  exact forall_congr' fun p => forall_congr' fun hp => mem_parts_iff_R t c hc hwf hnd p (hred p hp)

theorem IsDel.zip_eq_filter {t b : Testcase} (hdel : IsDel t b) (hwf : t.WF) (hnd : t.parts.Nodup)
    (P : Bytes → Bool) (hP : ∀ p, (p, true) ∈ t.parts.zip t.reducible → (p ∈ R b ↔ P p = true)) :
    b.parts.zip b.reducible = (t.parts.zip t.reducible).filter (fun x => !x.2 || P x.1) := by
  have hnodup : (t.parts.zip t.reducible).Nodup :=
    List.Pairwise.of_map (S := (· ≠ ·)) (·.1) (fun _ _ hne e => hne (congrArg _ e))
      (by rw [zip_map_fst _ hwf]; exact hnd)
  apply sublist_eq_filter _ _ _ hdel.sublist hnodup
  rintro ⟨p, fl⟩ hx
  cases fl
  · -- the entries that are not reducible are all there
    have : (p, false) ∈ (t.parts.zip t.reducible).filter (fun x => !x.2) := List.mem_filter.2 ⟨hx, rfl⟩
    rw [← hdel.fixed] at this
    exact iff_of_true (List.mem_filter.1 this).1 rfl
  · rw [← mem_R_iff]
    exact hP p hx

theorem R_of_one_minimal (f : Bytes → Bool) (t b : Testcase) (core : List Bytes)
    (hR : ∀ c, IsDel t c → (f c.content = true ↔ ∀ p ∈ core, p ∈ R c)) (ht : ∀ p ∈ core, p ∈ R t)
    (hdel : IsDel t b) (hacc : b = t ∨ f b.content = true)
    (hmin : ∀ i, i < b.len → f (rm1 b i).content = false) (p : Bytes) : p ∈ R b ↔ p ∈ core := by
  have hcore : ∀ q ∈ core, q ∈ R b := by
    rcases hacc with rfl | hacc
    · exact ht
    · exact (hR b hdel).mp hacc
  refine ⟨fun hp => ?_, hcore p⟩
  -- deleting `p` alone (`R b = A ++ [p] ++ S`) is rejected, so `[p]` contains a core atom
  obtain ⟨A, S, hAS⟩ := List.append_of_mem hp
  obtain ⟨hd, hRc⟩ := R_rmslice_block t b hdel A [p] S hAS
  have hrej : f (b.rmslice ↑A.length ↑(A.length + [p].length)).content = false :=
    hmin A.length (by rw [← R_length b hdel.wf, hAS]; simp)
  have hn : ¬ ∀ q ∈ core, q ∈ A ++ S := fun hc => by
    rw [(hR _ hd).mpr (hRc ▸ hc)] at hrej
    cases hrej
  obtain ⟨q, hq, hqp⟩ := block_core core A [p] S (hAS ▸ hcore) hn
  rwa [List.mem_singleton.mp hqp] at hq

/-! ### The number of tests: a potential that every candidate pays from -/

/-- the case lemma for a deterministic test (`attempt_eq` is the one for any oracle): a de-duplicated
candidate counts as rejected -/
theorem attempt_cases (f : Bytes → Bool) (n0 : Nat) (st : MinSt) (it : It) (ha : AInv n0 st it)
    (h : OneInv f st it) :
    (f (it.best.rmslice (blockStart st) st.chunkEnd).content = true ∧
      (attempt (fun _ c => f c) st it).2.best = it.best.rmslice (blockStart st) st.chunkEnd ∧
      (attempt (fun _ c => f c) st it).2.nTests = it.nTests + 1 ∧
      (attempt (fun _ c => f c) st it).1 = { st with removed := true, chunkEnd := blockStart st }) ∨
    (f (it.best.rmslice (blockStart st) st.chunkEnd).content = false ∧
      (attempt (fun _ c => f c) st it).2.best = it.best ∧
      (attempt (fun _ c => f c) st it).2.nTests ≤ it.nTests + 1 ∧
      (attempt (fun _ c => f c) st it).1 = { st with chunkEnd := st.chunkEnd - stepBack st }) := by
  rcases attempt_eq (fun _ c => f c) st it with ⟨hin, e⟩ | ⟨-, hv, e⟩ | ⟨-, hv, e⟩ <;> rw [e]
  · exact Or.inr ⟨dedup_rejects ha h hin, rfl, Nat.le_succ _, rfl⟩
  · exact Or.inl ⟨hv, rfl, rfl, rfl⟩
  · exact Or.inr ⟨hv, rfl, Nat.le_refl _, rfl⟩

theorem cand_spec {t b : Testcase} (hd : IsDel t b) {st : MinSt} {A B S : List Bytes} (hR : R b = A ++ (B ++ S))
    (hB : B.length = st.chunkSize) (he : st.chunkEnd = ((A.length + B.length : Nat) : Int)) :
    blockStart st = (A.length : Int) ∧ IsDel t (b.rmslice (blockStart st) st.chunkEnd) ∧
      R (b.rmslice (blockStart st) st.chunkEnd) = A ++ S := by
  have hbs : blockStart st = (A.length : Int) := by
    unfold blockStart
    omega
  rw [hbs, he]
  exact ⟨rfl, R_rmslice_block t b hd A B S hR⟩

/-- a block that stays is left as a whole, except at size 2, which steps back by one atom only -/
theorem stepBack_spec {st : MinSt} {a : Nat} (hcs : 1 ≤ st.chunkSize)
    (he : st.chunkEnd = ((a + st.chunkSize : Nat) : Int)) :
    ∃ e' : Nat, st.chunkEnd - stepBack st = (e' : Int) ∧
      (st.chunkSize ≠ 2 ∧ e' = a ∨ st.chunkSize = 2 ∧ e' = a + 1) := by
  by_cases h2 : st.chunkSize = 2
  · exact ⟨a + 1, by unfold stepBack; omega, Or.inr ⟨h2, rfl⟩⟩
  · exact ⟨a, by unfold stepBack; omega, Or.inl ⟨h2, rfl⟩⟩

/-- the invariant of the test bound: `one` (the invariant of C03) is there so that a de-duplicated
candidate counts as a rejected one, `pow` so that the next chunk size has an exponent -/
structure KInv (f : Bytes → Bool) (t : Testcase) (core : List Bytes) (st : MinSt) (it : It) : Prop where
  one : OneInv f st it
  del : IsDel t it.best
  cin : ∀ p ∈ core, p ∈ R it.best
  pow : ∃ k, st.chunkSize = 2 ^ k
  swept : Swept core st.chunkSize st.chunkEnd (R it.best)

theorem swept_start (core l : List Bytes) (cs : Nat) : Swept core cs l.length l :=
  ⟨l, [], (List.append_nil l).symm, rfl, fun _ => Nat.zero_le _⟩

/-- candidates left in a round with chunk size `cs` and `chunk_end = e` (sizes 1 and 2 slide by one atom) -/
def sweepRest (cs e : Nat) : Nat := if cs ≤ 2 then e else e / cs

/-- a bound for the tests of the rounds after the one with chunk size `2^k`, with `n` atoms left and `m`
core atoms.  `k = 0`: the repeat of the size-1 round, with core atoms only; none when `fin` (this
round removed nothing so far and only core atoms are left).  `k = 1`: the size-1 round and its repeat.
`k + 2`: `k` rounds with chunks of 4 or more, `2m+1` candidates each; then sizes 2 and 1 try each of
the at most `4m+3` atoms left and the repeat follows, `2·(4m+3) + m`, or `4 + 4 + m` when sizes were
skipped and at most 4 atoms are left: both at most `9m+8` -/
def laterRounds (m k n : Nat) (fin : Bool) : Nat :=
  match k with
  | 0 => if fin then 0 else m
  | 1 => n + m
  | k + 2 => (2 * m + 1) * k + (9 * m + 8)

def Psi (core : List Bytes) (st : MinSt) (it : It) : Nat :=
  sweepRest st.chunkSize st.chunkEnd.toNat +
    laterRounds core.length (Nat.log2 st.chunkSize) (R it.best).length
      (!st.removed && decide ((R it.best).length ≤ cc core (R it.best)))

theorem sweepRest_step (cs e e' : Nat) (hcs : 1 ≤ cs) (h : e' + cs = e ∨ cs = 2 ∧ e' + 1 = e) :
    sweepRest cs e' + 1 ≤ sweepRest cs e := by
  unfold sweepRest
  split
  · omega
  · have : e' + cs = e := by omega
    rw [← this, Nat.add_div_right _ (by omega)]
    exact Nat.le_refl _

theorem sweepRest_two_pow (j n : Nat) : sweepRest (2 ^ (j + 2)) n = n / 2 ^ (j + 2) :=
  if_neg (Nat.not_le_of_lt (Nat.lt_of_lt_of_le (by decide : 2 < 2 ^ 2)
    (Nat.pow_le_pow_right (by decide) (Nat.le_add_left 2 j))))

theorem laterRounds_zero_le (m n : Nat) (fin : Bool) : laterRounds m 0 n fin ≤ m := by
  cases fin <;> simp [laterRounds]

theorem laterRounds_accept (m k n n' : Nat) (fin' : Bool) (hn : n' ≤ n) :
    laterRounds m k n' fin' ≤ laterRounds m k n false :=
  match k with
  | 0 => laterRounds_zero_le m n' fin'
  | 1 => Nat.add_le_add_right hn m
  | _ + 2 => Nat.le_refl _

/-- one atom in `2^(j+1)` is a core atom, so fewer than `2 (m+1)` chunks of `2^j` are left -/
theorem laterRounds_next (m j n : Nat) (fin fin' : Bool) (hn : 2 ^ (j + 1) ≠ 2 → n < 2 ^ (j + 1) * (m + 1)) :
    sweepRest (2 ^ j) n + laterRounds m j n fin ≤ laterRounds m (j + 1) n fin' :=
  match j with
  | 0 => Nat.add_le_add_left (laterRounds_zero_le m n fin) n
  | 1 => by
    have := hn (by decide)
    show n + (n + m) ≤ (2 * m + 1) * 0 + (9 * m + 8)
    omega
  | j + 2 => by
    have h2 : 1 < 2 ^ (j + 2) := Nat.one_lt_two_pow (Nat.succ_ne_zero _)
    have := hn (by rw [Nat.pow_succ]; omega)
    rw [Nat.pow_succ, Nat.mul_assoc] at this
    have := Nat.div_lt_of_lt_mul this
    rw [sweepRest_two_pow]
    show n / 2 ^ (j + 2) + ((2 * m + 1) * j + (9 * m + 8)) ≤ (2 * m + 1) * (j + 1) + (9 * m + 8)
    rw [Nat.mul_succ]
    omega

/-- sizes skipped: at most 2 chunks are left, and the budget of two rounds is there -/
theorem laterRounds_skip (m j d n : Nat) (fin fin' : Bool) (hn : n ≤ 2 ^ (j + 1)) :
    sweepRest (2 ^ j) n + laterRounds m j n fin ≤ laterRounds m (d + (j + 2)) n fin' :=
  match j with
  | 0 => by
    have := laterRounds_zero_le m n fin
    show n + _ ≤ (2 * m + 1) * d + (9 * m + 8)
    omega
  | 1 => by
    show n + (n + m) ≤ (2 * m + 1) * (d + 1) + (9 * m + 8)
    omega
  | j + 2 => by
    rw [Nat.pow_succ] at hn
    have := Nat.div_le_of_le_mul hn
    rw [sweepRest_two_pow]
    show n / 2 ^ (j + 2) + ((2 * m + 1) * j + (9 * m + 8)) ≤ (2 * m + 1) * (d + (j + 2)) + (9 * m + 8)
    rw [Nat.mul_add, Nat.mul_add]
    omega

/-- the start: first chunk size `2^j ≥ n/2`, `c = ceil(log2 n) ≥ j+1`, and
`(2m+1)(j+1) + 5m+8 = (2m+1)(j-2) + 9m+8 + 2m+3` covers the at most 2 chunks of the first round and
the initial test -/
theorem Psi_start (m j n c : Nat) (fin : Bool) (hn : n ≤ 2 * 2 ^ j) (hc : 1 ≤ j → j + 1 ≤ c) :
    sweepRest (2 ^ j) n + laterRounds m j n fin + 1 ≤ (2 * m + 1) * c + 5 * m + 8 :=
  match j with
  | 0 => by
    have := laterRounds_zero_le m n fin
    show n + _ + 1 ≤ _
    omega
  | 1 => by
    have := Nat.mul_le_mul_left (2 * m + 1) (hc (Nat.le_refl 1))
    show n + (n + m) + 1 ≤ _
    omega
  | j + 2 => by
    have hm := Nat.mul_le_mul_left (2 * m + 1) (hc (Nat.le_add_left 1 (j + 1)))
    rw [Nat.mul_comm] at hn
    have := Nat.div_le_of_le_mul hn
    rw [sweepRest_two_pow]
    show n / 2 ^ (j + 2) + ((2 * m + 1) * j + (9 * m + 8)) + 1 ≤ _
    rw [Nat.mul_add, Nat.mul_add] at hm
    omega

/-- `hge`: the candidate's block is a whole chunk (chunk sizes are powers of two below the length, so
the truncated first block of `AInv.edge` does not occur here) -/
theorem kinv_attempt {f : Bytes → Bool} {t : Testcase} {core : List Bytes} (H : CoreHyp f t core)
    {n0 : Nat} {st : MinSt} {it : It} (ha : AInv n0 st it) (hk : KInv f t core st it)
    (hge : (st.chunkSize : Int) ≤ st.chunkEnd) :
    KInv f t core (attempt (fun _ c => f c) st it).1 (attempt (fun _ c => f c) st it).2 ∧
    (attempt (fun _ c => f c) st it).2.nTests + Psi core (attempt (fun _ c => f c) st it).1 (attempt (fun _ c => f c) st it).2
      ≤ it.nTests + Psi core st it := by
  obtain ⟨A, S, hR, he, hS⟩ := hk.swept
  obtain ⟨A, B, rfl, hB⟩ := split_last A st.chunkSize (by omega)
  rw [List.append_assoc] at hR
  rw [List.length_append] at he
  obtain ⟨hbs, hdelc, hRc⟩ := cand_spec hk.del hR hB he
  have htest := coreTest_R H.wf H.nd H.red H.test _ hdelc
  rw [hRc] at htest
  have hnd := R_nodup hk.del H.wf H.nd
  have hone := oneInv_attempt ha hk.one
  have hcs := ha.cs
  have hcases := attempt_cases f n0 st it ha hk.one
  generalize attempt (fun _ c => f c) st it = X at *
  obtain ⟨st', it'⟩ := X
  unfold Psi
  rcases hcases with ⟨hv, hb, hn, rfl⟩ | ⟨hv, hb, hn, rfl⟩
  · -- `A ++ S` is left, `A` is still to be swept
    have hcore := htest.mp hv
    simp only at hb hn hone ⊢
    refine ⟨⟨hone, hb ▸ hdelc, by rw [hb, hRc]; exact hcore, hk.pow, A, S, by rw [hb, hRc], hbs, hS⟩, ?_⟩
    rw [hb, hRc, hn, hbs, he, hR, Int.toNat_natCast, Int.toNat_natCast]
    have h1 := sweepRest_step st.chunkSize (A.length + B.length) A.length hcs (Or.inl (by rw [hB]))
    have hlen : (A ++ S).length < (A ++ (B ++ S)).length := by
      simp only [List.length_append]
      omega
    -- not every atom was a core atom, so this was not going to be the last round
    rw [decide_eq_false (not_all_core core _ _ (hR ▸ hnd) H.cnd hcore hlen), Bool.and_false]
    have h2 := laterRounds_accept core.length (Nat.log2 st.chunkSize) _ _
      (!true && decide ((A ++ S).length ≤ cc core (A ++ S))) (Nat.le_of_lt hlen)
    omega
  · -- `B` contains a core atom, `B ++ S` has been swept
    simp only at hb hn hone ⊢
    obtain ⟨e', he', hstep⟩ := stepBack_spec hcs (hB ▸ he)
    rw [he'] at hone
    rw [hb, he', he, Int.toNat_natCast, Int.toNat_natCast]
    refine ⟨⟨hone, hb ▸ hk.del, hb ▸ hk.cin, hk.pow, ?_⟩, ?_⟩
    · rw [hb]
      rcases hstep with ⟨h2, rfl⟩ | ⟨h2, rfl⟩
      · exact ⟨A, B ++ S, hR, rfl, fun _ => dense_block core A B S _ (hR ▸ hk.cin)
          (fun h => by rw [htest.mpr h] at hv; exact absurd hv (by decide)) hB (hS h2)⟩
      · refine ⟨(R it.best).take (A.length + 1), (R it.best).drop (A.length + 1),
          (List.take_append_drop _ _).symm, ?_, fun h => absurd h2 h⟩
        rw [List.length_take_of_le (by rw [hR]; simp only [List.length_append]; omega)]
    · have h1 := sweepRest_step st.chunkSize (A.length + B.length) e' hcs
        (hstep.imp (fun h => by rw [h.2, hB]) (fun h => ⟨h.1, by rw [h.2]; omega⟩))
      omega

theorem kinv_round {cfg : Cfg} (hrep : cfg.rep = .last) {f : Bytes → Bool} {t : Testcase} {core : List Bytes}
    (H : CoreHyp f t core) {clk : Clock} {stopAt : Option Nat} {n0 : Nat} {st st' : MinSt} {it : It}
    (hinv : MInv n0 st it) (hk : KInv f t core st it)
    (hr : roundPhase cfg clk stopAt id st it = .inr (st', it)) :
    (KInv f t core st' it ∧ (st'.chunkSize : Int) ≤ st'.chunkEnd) ∧ Psi core st' it ≤ Psi core st it := by
  have hone := oneInv_round hk.one hr
  obtain ⟨-, ⟨hne, rfl, -⟩ | ⟨hend, hlen, -, hrd⟩⟩ := roundPhase_inr hr
  · exact ⟨⟨hk, by omega⟩, Nat.le_refl _⟩
  · obtain ⟨A, S, hR, he, hS⟩ := hk.swept
    obtain ⟨k, hk2⟩ := hk.pow
    have hmc := hk.one.mc
    have hnd := R_nodup hk.del H.wf H.nd
    simp only [id] at hrd
    rw [← R_length it.best hinv.wf] at hrd hlen
    have hn : st.chunkSize ≠ 2 → (R it.best).length < st.chunkSize * (core.length + 1) := fun h2 =>
      hR ▸ round_end_length core A S _ (hR ▸ hnd) (by omega) (hS h2)
    unfold Psi
    obtain ⟨cs, mc, ce, rm⟩ := st
    simp only at hend hk2 hmc he hS hn hrd ⊢
    subst hk2 hmc
    obtain ⟨cs', rfl, ⟨rfl, hrm, -, hle⟩ | ⟨rfl, hlt⟩⟩ := roundDecision_some hrd
    · -- the round with chunk size 1 is repeated: only core atoms are left
      have hkk := @Nat.lt_two_pow_self k
      have hle := hle hrep
      simp only at hrm hle hone ⊢
      obtain rfl : k = 0 := by omega
      subst hrm
      have hn := hn (by decide)
      obtain rfl : A = [] := List.eq_nil_of_length_eq_zero (by omega)
      have hS := hS (by decide)
      rw [Nat.one_mul, ← List.nil_append S, ← hR] at hS
      refine ⟨⟨⟨hone, hk.del, hk.cin, ⟨0, rfl⟩, swept_start ..⟩, by omega⟩, ?_⟩
      rw [Int.toNat_natCast, decide_eq_true hS]
      show (R it.best).length + 0 ≤ _ + core.length
      omega
    · -- next size `2^j`: `j = k`, or `j < k` when sizes are skipped
      simp only at hlt hone ⊢
      obtain ⟨k, rfl⟩ := Nat.exists_eq_succ_of_ne_zero fun h0 : k = 0 => absurd (h0 ▸ hlt) (by decide)
      obtain ⟨j, hj, e, h2, h3⟩ := min_two_pow_lp2 k (R it.best).length
      rw [halveBelow_self_two_pow, e] at hone ⊢
      have hjn : 2 ^ j ≤ (R it.best).length := h2.elim Nat.le_of_lt fun h1 => h1 ▸ Nat.pos_of_ne_zero hlen
      refine ⟨⟨⟨hone, hk.del, hk.cin, ⟨j, rfl⟩, swept_start ..⟩, Int.ofNat_le.2 hjn⟩, ?_⟩
      rw [Int.toNat_natCast, Nat.log2_two_pow, Nat.log2_two_pow]
      refine Nat.le_trans ?_ (Nat.le_add_left _ _)
      rcases Nat.lt_or_ge j k with hjk | hjk
      · obtain ⟨d, rfl⟩ : ∃ d, k = d + (j + 1) := ⟨k - (j + 1), by omega⟩
        exact laterRounds_skip core.length j d _ _ _ (h3 hjk)
      · obtain rfl := Nat.le_antisymm hj hjk
        exact laterRounds_next core.length j _ _ _ hn

/-- With first chunk size `2^j`, whatever `--max`, `--repeat-first-round`, the clock and the time limit
are: at most `n / 2^j` tests in the first round, `2m+1` in each later round with chunks of 4 or more
atoms, `9m+8` in the rounds with sizes 2 and 1. -/
theorem core_test_psi (cfg : Cfg) (f : Bytes → Bool) (clk : Clock) (t : Testcase) (core : List Bytes)
    (H : CoreHyp f t core) (hne : ∀ p ∈ t.parts, p ≠ [])
    (hmin : cfg.min = 1) (hrep : cfg.rep = .last) (j : Nat) (hj : min cfg.max (Util.lp2 t.len) = 2 ^ j) :
    (minimize cfg (fun _ c => f c) clk t).nTests ≤ Psi core (minInit cfg t) { best := t } := by
  have hmax : 1 ≤ cfg.max := by
    have := Nat.two_pow_pos j
    omega
  have hkinv : KInv f t core (minInit cfg t) { best := t } :=
    ⟨oneInv_init cfg f t hne hmin hmax, isDel_refl t H.wf, fun p hp => (mem_R_iff t p).mpr (H.red p hp),
      ⟨j, hj⟩, (R_length t H.wf ▸ swept_start .. : Swept core _ (t.len : Int) (R t))⟩
  have hb := minLoop_potential cfg (fun _ c => f c) clk (stopAt cfg clk) t.len
    (KInv f t core) (fun st it => KInv f t core st it ∧ (st.chunkSize : Int) ≤ st.chunkEnd) (Psi core)
    (fun _ _ _ hinv hp hr => kinv_round hrep H hinv hp hr)
    (fun _ _ ha hp => kinv_attempt H ha hp.1 hp.2)
    (minFuel t) (minInit cfg t) { best := t } (minInit_inv cfg t H.wf hmax) hkinv
  rw [show ({ best := t } : It).nTests = 0 from rfl, Nat.zero_add] at hb
  exact hb

theorem core_test_bound (cfg : Cfg) (f : Bytes → Bool) (clk : Clock) (t : Testcase) (core : List Bytes)
    (H : CoreHyp f t core) (hne : ∀ p ∈ t.parts, p ≠ [])
    (hmin : cfg.min = 1) (hrep : cfg.rep = .last) (hrf : cfg.repeatFirst = false)
    (hmax : Util.lp2 t.len ≤ cfg.max) :
    (minimize cfg (fun _ c => f c) clk t).nTests + 1
      ≤ (2 * core.length + 1) * clog2 t.len + 5 * core.length + 8 := by
  have hcs : min cfg.max (Util.lp2 t.len) = 2 ^ Nat.log2 (t.len - 1) := by
    rw [← Util.lp2_eq]
    omega
  have hb := core_test_psi cfg f clk t core H hne hmin hrep _ hcs
  have hn2 := Util.le_two_lp2 t.len
  rw [Util.lp2_eq] at hn2
  -- the first chunk size is `2^(ceil(log2 n) - 1)`
  have hc : 1 ≤ Nat.log2 (t.len - 1) → Nat.log2 (t.len - 1) + 1 ≤ clog2 t.len := by
    intro h1
    rcases Nat.lt_or_ge t.len 2 with hlt | hge
    · rw [Nat.sub_eq_zero_of_le (Nat.le_of_lt_succ hlt)] at h1
      exact absurd h1 (by decide)
    · exact Nat.le_of_eq (clog2_of_two_le hge).symm
  unfold Psi at hb
  rw [minInit_chunkSize, minInit_chunkEnd, hcs, Int.toNat_natCast, Nat.log2_two_pow, R_length t H.wf] at hb
  exact Nat.le_trans (Nat.succ_le_succ hb) (Psi_start _ _ _ _ _ hn2 hc)

end Strat
