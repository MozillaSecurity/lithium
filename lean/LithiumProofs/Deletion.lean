/-
"The original with reducible atoms deleted" (C04) as an order on testcases: `IsDel orig t` is
reflexive and transitive, and `rmslice` with `0 ≤ s ≤ e` steps down in it.  What the strategies need
of a candidate is a property of the order, not of `rmslice`: `len` is monotone, and every reducible
atom deleted from non-empty atoms costs at least one byte.  `CutChain t c` says that `c` is `t` after
some such steps, `Cut t c` that at least one atom went; a predicate closed under the steps
(`RmClosed`) holds of every testcase in the log of a strategy that proposes nothing else.
-/
import LithiumProofs.Rmslice
import LithiumProofs.Iter

namespace Strat
open Testcase

theorem sublist_flatten_length {α} {l' l : List (List α)} (hs : l'.Sublist l) (hne : ∀ p ∈ l, p ≠ []) :
    l'.flatten.length + l.length ≤ l.flatten.length + l'.length := by
  induction hs with
  | slnil => exact Nat.le_refl _
  | @cons l1 l2 a _ ih =>
    have := ih (fun p hp => hne p (List.mem_cons_of_mem _ hp))
    have := List.length_pos_iff.2 (hne a List.mem_cons_self)
    simp only [List.flatten_cons, List.length_append, List.length_cons]
    omega
  | @cons_cons l1 l2 a _ ih =>
    have := ih (fun p hp => hne p (List.mem_cons_of_mem _ hp))
    simp only [List.flatten_cons, List.length_append, List.length_cons]
    omega

/-- "The original with zero or more reducible atoms deleted": `t` has the protected prefix and suffix
of `orig`, its (part, flag) list is a sub-list of `orig`'s, and it has exactly `orig`'s non-reducible
parts.  The last clause is needed: a sub-list alone could have lost non-reducible parts too. -/
def IsDel (orig t : Testcase) : Prop :=
  t.before = orig.before ∧ t.after = orig.after ∧ t.WF ∧
  (t.parts.zip t.reducible).Sublist (orig.parts.zip orig.reducible) ∧
  (t.parts.zip t.reducible).filter (fun x => !x.2) = (orig.parts.zip orig.reducible).filter (fun x => !x.2)

theorem isDel_refl (t : Testcase) (h : t.WF) : IsDel t t :=
  ⟨rfl, rfl, h, List.Sublist.refl _, rfl⟩

theorem IsDel.before_eq {orig t : Testcase} (h : IsDel orig t) : t.before = orig.before := h.1

theorem IsDel.after_eq {orig t : Testcase} (h : IsDel orig t) : t.after = orig.after := h.2.1

theorem IsDel.wf {orig t : Testcase} (h : IsDel orig t) : t.WF := h.2.2.1

theorem IsDel.sublist {orig t : Testcase} (h : IsDel orig t) :
    (t.parts.zip t.reducible).Sublist (orig.parts.zip orig.reducible) := h.2.2.2.1

theorem IsDel.fixed {orig t : Testcase} (h : IsDel orig t) :
    (t.parts.zip t.reducible).filter (fun x => !x.2) = (orig.parts.zip orig.reducible).filter (fun x => !x.2) :=
  h.2.2.2.2

theorem IsDel.trans {a b c : Testcase} (h1 : IsDel a b) (h2 : IsDel b c) : IsDel a c :=
  ⟨h2.before_eq.trans h1.before_eq, h2.after_eq.trans h1.after_eq, h2.wf, h2.sublist.trans h1.sublist,
    h2.fixed.trans h1.fixed⟩

theorem IsDel.parts_sublist {orig t : Testcase} (h : IsDel orig t) (hw : orig.WF) : t.parts.Sublist orig.parts := by
  have := h.sublist.map (·.1)
  rwa [zip_map_fst _ h.wf, zip_map_fst _ hw] at this

theorem IsDel.parts_len {orig t : Testcase} (h : IsDel orig t) (hw : orig.WF) :
    t.parts.length + orig.len = orig.parts.length + t.len := by
  rw [parts_length t h.wf, parts_length orig hw, h.fixed]
  omega

theorem IsDel.len_le {orig t : Testcase} (h : IsDel orig t) (hw : orig.WF) : t.len ≤ orig.len := by
  have := h.parts_len hw
  have := (h.parts_sublist hw).length_le
  omega

theorem IsDel.nonempty {orig t : Testcase} (h : IsDel orig t) (hw : orig.WF) (hne : ∀ p ∈ orig.parts, p ≠ []) :
    ∀ p ∈ t.parts, p ≠ [] :=
  fun p hp => hne p ((h.parts_sublist hw).subset hp)

theorem IsDel.bytes {orig t : Testcase} (h : IsDel orig t) (hw : orig.WF) (hne : ∀ p ∈ orig.parts, p ≠ []) :
    t.content.length + orig.len ≤ orig.content.length + t.len := by
  have := sublist_flatten_length (h.parts_sublist hw) hne
  have := h.parts_len hw
  simp only [content, List.length_append, h.before_eq, h.after_eq]
  omega

variable {t : Testcase} {s e : Int}

theorem isDel_rmslice (h : t.WF) (h0 : 0 ≤ s) (hse : s ≤ e) : IsDel t (t.rmslice s e) := by
  obtain ⟨c2, c3⟩ := rmslice_frame t s e
  obtain ⟨c1, c4⟩ := rmslice_erase t h s e h0 hse
  exact ⟨c2, c3, c1, c4 ▸ eraseRanks_sublist _ _ _ _, c4 ▸ eraseRanks_filter _ _ _ _⟩

theorem IsDel.rmslice {orig : Testcase} (h : IsDel orig t) (h0 : 0 ≤ s) (hse : s ≤ e) :
    IsDel orig (t.rmslice s e) :=
  h.trans (isDel_rmslice h.wf h0 hse)

theorem rmslice_shorter (h : t.WF) (hne : ∀ p ∈ t.parts, p ≠ []) (h0 : 0 ≤ s) (hse : s < e)
    (hel : e ≤ (t.len : Int)) :
    (t.rmslice s e).content.length < t.content.length ∧ (∀ p ∈ (t.rmslice s e).parts, p ≠ []) := by
  have d := isDel_rmslice h h0 (Int.le_of_lt hse)
  have hl := rmslice_len_of_le h h0 (Int.le_of_lt hse) hel
  have hb := d.bytes h hne
  exact ⟨by omega, d.nonempty h hne⟩

def RmClosed (T : Testcase → Prop) : Prop :=
  ∀ t s e, T t → (0 : Int) ≤ s → s ≤ e → T (t.rmslice s e)

inductive CutChain (t : Testcase) : Testcase → Prop
  | refl : CutChain t t
  | rm {c : Testcase} (s e : Int) : CutChain t c → 0 ≤ s → s ≤ e → CutChain t (c.rmslice s e)

theorem CutChain.closed {T : Testcase → Prop} (hT : RmClosed T) {t c : Testcase} (h : CutChain t c) (ht : T t) : T c := by
  induction h with
  | refl => exact ht
  | rm s e _ h0 hse ih => exact hT _ s e ih h0 hse

/-- what a pass of minimize-around / minimize-balanced proposes: the best testcase after some
deletions that take away at least one atom.  `fewer` has its own well-formedness premise because
`C05_frame_pairs` has none. -/
structure Cut (t c : Testcase) : Prop where
  chain : CutChain t c
  fewer : t.WF → c.len < t.len

theorem wf_closed : RmClosed Testcase.WF :=
  fun _ _ _ h h0 hse => (isDel_rmslice h h0 hse).wf

def SameFrame (t c : Testcase) : Prop := c.before = t.before ∧ c.after = t.after

theorem SameFrame.trans {a b c : Testcase} (h1 : SameFrame a b) (h2 : SameFrame b c) : SameFrame a c :=
  ⟨h2.1.trans h1.1, h2.2.trans h1.2⟩

theorem frame_closed (orig : Testcase) : RmClosed (SameFrame orig) :=
  fun t s e h _ _ => h.trans (rmslice_frame t s e)

theorem isDel_closed (orig : Testcase) : RmClosed (IsDel orig) :=
  fun _ _ _ h h0 hse => h.rmslice h0 hse

theorem allT_kept_chain {T : Testcase → Prop} (hT : RmClosed T) (o : Oracle) (clk : Clock) (stopAt : Option Nat) :
    Kept o clk stopAt CutChain (AllT T) :=
  allT_kept (fun _ _ h => h.closed hT) o clk stopAt

theorem allT_kept_cut {T : Testcase → Prop} (hT : RmClosed T) (o : Oracle) (clk : Clock) (stopAt : Option Nat) :
    Kept o clk stopAt Cut (AllT T) :=
  allT_kept (fun _ _ h => h.chain.closed hT) o clk stopAt

/-- what C05 claims of a log: `AllT (SameFrame orig)` without its clause about the basis of a proposal -/
structure Frame (orig : Testcase) (it : It) : Prop where
  best : it.best.before = orig.before ∧ it.best.after = orig.after
  atts : ∀ a ∈ it.atts, a.cand.before = orig.before ∧ a.cand.after = orig.after

theorem frame_of_allT (orig : Testcase) (it : It) (h : AllT (SameFrame orig) it) : Frame orig it :=
  ⟨h.best, fun a ha => (h.atts a ha).1⟩

end Strat
