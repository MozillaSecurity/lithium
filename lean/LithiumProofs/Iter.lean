/-
The iterator (`ReductionIterator`): what `It.try` does, and the invariants of the iterator that every
proposal with a faithful log entry keeps, whatever strategy makes it (`Kept`): a predicate on all
testcases of the log, the time limit, "the best testcase is the original or an accepted one"; beside
them the step for "a shortest accepted one" (`tried_try`), which is no `Kept` instance because its
candidates must be shorter.
-/
import LithiumModel.Minimize

namespace Strat

/-- `try_testcase` and the driver's feedback: the candidate is de-duplicated, accepted or rejected -/
theorem try_eq (it : It) (o : Oracle) (c : Testcase) (mk : Resp → Att) :
    (it.tried.contains c.content = true ∧
      it.try o c mk = (.skipped, { it with atts := mk .skipped :: it.atts })) ∨
    (it.tried.contains c.content = false ∧ o it.nTests c.content = true ∧
      it.try o c mk = (.accepted, { it with best := c, tried := c.content :: it.tried,
                                            nTests := it.nTests + 1, atts := mk .accepted :: it.atts })) ∨
    (it.tried.contains c.content = false ∧ o it.nTests c.content = false ∧
      it.try o c mk = (.rejected, { it with tried := c.content :: it.tried, nTests := it.nTests + 1,
                                            atts := mk .rejected :: it.atts })) := by
  unfold It.try
  cases h : it.tried.contains c.content
  · cases hv : o it.nTests c.content <;> simp
  · simp

theorem try_flags (it : It) (o : Oracle) (c : Testcase) (mk : Resp → Att) :
    (it.try o c mk).2.outOfFuel = it.outOfFuel ∧ (it.try o c mk).2.internalError = it.internalError ∧
    (it.try o c mk).2.deadlineStop = it.deadlineStop := by
  rcases try_eq it o c mk with ⟨-, e⟩ | ⟨-, -, e⟩ | ⟨-, -, e⟩ <;> rw [e] <;> exact ⟨rfl, rfl, rfl⟩

theorem try_atts (it : It) (o : Oracle) (c : Testcase) (mk : Resp → Att) :
    (it.try o c mk).2.atts = mk (it.try o c mk).1 :: it.atts := by
  rcases try_eq it o c mk with ⟨-, e⟩ | ⟨-, -, e⟩ | ⟨-, -, e⟩ <;> rw [e]

theorem try_best (T : Testcase → Prop) (it : It) (o : Oracle) (c : Testcase) (mk : Resp → Att)
    (h : T it.best) (hc : T c) : T (it.try o c mk).2.best := by
  rcases try_eq it o c mk with ⟨-, e⟩ | ⟨-, -, e⟩ | ⟨-, -, e⟩ <;> rw [e] <;> assumption

theorem try_quiet (it : It) (o : Oracle) (c : Testcase) (mk : Resp → Att)
    (h : ((it.try o c mk).1 == Resp.accepted) = false) :
    (it.try o c mk).2.best = it.best ∧ c.content ∈ (it.try o c mk).2.tried ∧
    ∀ x ∈ it.tried, x ∈ (it.try o c mk).2.tried := by
  rcases try_eq it o c mk with ⟨hin, e⟩ | ⟨-, -, e⟩ | ⟨-, -, e⟩
  · rw [e]
    exact ⟨rfl, by simpa using hin, fun x hx => hx⟩
  · rw [e] at h
    exact absurd h (by simp)
  · rw [e]
    exact ⟨rfl, List.mem_cons_self, fun x hx => List.mem_cons_of_mem _ hx⟩

/-- `mk r` names the candidate, the testcase it was built from and the number of tests run before -/
def Logged (it : It) (c : Testcase) (mk : Resp → Att) : Prop :=
  ∀ r, (mk r).cand = c ∧ (mk r).base = it.best ∧ (mk r).tIdx = it.nTests

/-- `Q` does not look at the flags and survives every proposal, made before the deadline and
logged faithfully, of a candidate in relation `C` to the current best: proved once, for `It.try`,
and carried through the loops of every strategy. -/
structure Kept (o : Oracle) (clk : Clock) (stopAt : Option Nat) (C : Testcase → Testcase → Prop)
    (Q : It → Prop) : Prop where
  flags : ∀ it a b c, Q it → Q { it with outOfFuel := a, internalError := b, deadlineStop := c }
  step : ∀ it c mk, Q it → deadlinePassed stopAt clk it = false → C it.best c → Logged it c mk →
    Q (it.try o c mk).2

/-- `T` holds of the best testcase and of everything the log mentions -/
structure AllT (T : Testcase → Prop) (it : It) : Prop where
  best : T it.best
  atts : ∀ a ∈ it.atts, T a.cand ∧ T a.base

theorem allT_init {T : Testcase → Prop} {t : Testcase} (h : T t) : AllT T { best := t } :=
  ⟨h, by intro a ha; simp at ha⟩

theorem try_allT (T : Testcase → Prop) (it : It) (o : Oracle) (c : Testcase) (mk : Resp → Att)
    (h : AllT T it) (hc : T c) (hmk : Logged it c mk) :
    AllT T (it.try o c mk).2 := by
  have hnew : ∀ r, ∀ a ∈ mk r :: it.atts, T a.cand ∧ T a.base := by
    intro r a ha
    rcases List.mem_cons.1 ha with rfl | ha
    · rw [(hmk r).1, (hmk r).2.1]; exact ⟨hc, h.best⟩
    · exact h.atts a ha
  rcases try_eq it o c mk with ⟨-, e⟩ | ⟨-, -, e⟩ | ⟨-, -, e⟩ <;> rw [e]
  · exact ⟨h.best, hnew _⟩
  · exact ⟨hc, hnew _⟩
  · exact ⟨h.best, hnew _⟩

theorem allT_kept {T : Testcase → Prop} {C : Testcase → Testcase → Prop} (hC : ∀ t c, C t c → T t → T c)
    (o : Oracle) (clk : Clock) (stopAt : Option Nat) : Kept o clk stopAt C (AllT T) where
  flags _ _ _ _ h := ⟨h.best, h.atts⟩
  step it c mk h _ hc hmk := try_allT T it o c mk h (hC _ _ hc h.best) hmk

/-- no proposal of the log was made after the time limit -/
def OnTime (stopAt : Option Nat) (clk : Clock) (it : It) : Prop :=
  ∀ a ∈ it.atts, ∀ t, stopAt = some t → clk a.tIdx ≤ t

theorem onTime_init (stopAt : Option Nat) (clk : Clock) (t : Testcase) : OnTime stopAt clk { best := t } := by
  intro a ha
  simp at ha

theorem onTime_kept (o : Oracle) (clk : Clock) (stopAt : Option Nat) (C : Testcase → Testcase → Prop) :
    Kept o clk stopAt C (OnTime stopAt clk) where
  flags _ _ _ _ h := h
  step it c mk h hd _ hmk := by
    intro a hmem
    rw [try_atts it o c mk] at hmem
    simp only [List.mem_cons] at hmem
    rcases hmem with rfl | hmem
    · rw [(hmk _).2.2]
      intro t ht
      subst ht
      simpa [deadlinePassed] using hd
    · exact h a hmem

/-- `OnTime` in the words of C14 -/
theorem OnTime.deadline {cfg : Cfg} {clk : Clock} {it : It} (h : OnTime (stopAt cfg clk) clk it)
    {limit : Nat} (hl : cfg.stopAfter = some limit) :
    (∀ a ∈ it.atts, clk a.tIdx ≤ clk 0 + limit) ∧
    ((∀ i j, i ≤ j → clk i ≤ clk j) → ∀ k, clk k > clk 0 + limit → ∀ a ∈ it.atts, a.tIdx < k) := by
  have key : ∀ a ∈ it.atts, clk a.tIdx ≤ clk 0 + limit := by
    intro a ha
    exact h a ha _ (by simp [stopAt, hl])
  refine ⟨key, fun hmono k hk a ha => ?_⟩
  rcases Nat.lt_or_ge a.tIdx k with hlt | hge
  · exact hlt
  · have := hmono k a.tIdx hge
    have := key a ha
    omega

theorem accepted_kept (f : Bytes → Bool) (t : Testcase) (clk : Clock) (stopAt : Option Nat)
    (C : Testcase → Testcase → Prop) :
    Kept (fun _ c => f c) clk stopAt C (fun it => it.best = t ∨ f it.best.content = true) where
  flags _ _ _ _ h := h
  step it c mk h _ _ _ := by
    rcases try_eq it (fun _ c => f c) c mk with ⟨-, e⟩ | ⟨-, hv, e⟩ | ⟨-, -, e⟩ <;> rw [e]
    · exact h
    · exact Or.inr hv
    · exact h

/-- "the best testcase is a shortest accepted one among those tried" survives a shorter candidate -/
theorem tried_try {f : Bytes → Bool} {it : It}
    (h : ∀ x ∈ it.tried, f x = true → it.best.content.length ≤ x.length) (c : Testcase) (mk : Resp → Att)
    (hc : c.content.length < it.best.content.length) :
    ∀ x ∈ (it.try (fun _ x => f x) c mk).2.tried, f x = true →
      (it.try (fun _ x => f x) c mk).2.best.content.length ≤ x.length := by
  rcases try_eq it (fun _ x => f x) c mk with ⟨-, e⟩ | ⟨-, -, e⟩ | ⟨-, hv, e⟩ <;> rw [e]
  · exact h
  · intro x hx hfx
    rcases List.mem_cons.1 hx with rfl | hx
    · exact Nat.le_refl _
    · exact Nat.le_trans (Nat.le_of_lt hc) (h x hx hfx)
  · intro x hx hfx
    rcases List.mem_cons.1 hx with rfl | hx
    · exact absurd hfx (by simp [hv])
    · exact h x hx hfx

/-- how that invariant is used: de-duplication loses nothing -/
theorem tried_rejects {f : Bytes → Bool} {it : It}
    (h : ∀ x ∈ it.tried, f x = true → it.best.content.length ≤ x.length) {c : Testcase}
    (hm : c.content ∈ it.tried) (hc : c.content.length < it.best.content.length) : f c.content = false := by
  cases hf : f c.content with
  | false => rfl
  | true => exact absurd (h _ hm hf) (Nat.not_le_of_lt hc)

end Strat
