/-
The byte-level `splitlines` model: the round trip (`splitAux_flatten`, `splitAux_nonempty`: C06) and the three
clauses of C15 about line atoms (`LFOnlyLast`, `NoCRLFSplit`, `AllButLast EndsWithTerm`), each by
`fun_induction splitAux`.
-/
import LithiumModel.Lines

namespace Lines

theorem splitAux_flatten (cur l : Bytes) : (splitAux cur l).flatten = cur ++ l := by
  fun_induction splitAux cur l with
  | case1 cur h => simp_all
  | case2 cur h => simp
  | case3 cur b rest h ih => simp [ih]
  | case4 cur b rest h ih => simp [ih]

theorem splitLines_flatten (d : Bytes) : (splitLines d).flatten = d := by
  simp [splitLines, splitAux_flatten]

theorem splitAux_nonempty (cur l : Bytes) : ∀ x ∈ splitAux cur l, x ≠ [] := by
  fun_induction splitAux cur l with
  | case1 cur h => simp
  | case2 cur h => simpa using h
  | case3 cur b rest h ih =>
    intro x hx
    rcases List.mem_cons.mp hx with rfl | hx
    · simp
    · exact ih x hx
  | case4 cur b rest h ih => exact ih

theorem splitAux_first_head (l : Bytes) (y : Bytes) (t : List Bytes)
    (h : splitAux [] l = y :: t) : y.head? = l.head? := by
  have hf := splitAux_flatten [] l
  have hne := splitAux_nonempty [] l y (by rw [h]; simp)
  rw [h] at hf
  simp only [List.flatten_cons, List.nil_append] at hf
  cases y with
  | nil => exact absurd rfl hne
  | cons a y' => rw [← hf]; rfl

/-- `==` on `UInt8` is `decide (· = ·)`; `beq_iff_eq` searches a `LawfulBEq` instance at every use: slow to check -/
theorem byte_eq {a b : UInt8} (h : (a == b) = true) : a = b := of_decide_eq_true h

/-- a line feed occurs in `x` only as its last byte -/
def LFOnlyLast (x : Bytes) : Prop :=
  ∀ i (h : i < x.length), x[i] = 0x0A → i + 1 = x.length

theorem lfOnlyLast_snoc (cur : Bytes) (b : UInt8) (h : (0x0A : UInt8) ∉ cur) :
    LFOnlyLast (cur ++ [b]) := by
  intro i hi hx
  simp only [List.length_append, List.length_cons, List.length_nil] at hi ⊢
  by_cases hlt : i < cur.length
  · rw [List.getElem_append_left hlt] at hx
    exact absurd (hx ▸ List.getElem_mem hlt) h
  · omega

/-- LF always ends a line, so the line in progress never holds one: the invariant `0x0A ∉ cur` -/
theorem splitAux_lf (cur l : Bytes) (h : (0x0A : UInt8) ∉ cur) :
    ∀ x ∈ splitAux cur l, LFOnlyLast x := by
  fun_induction splitAux cur l with
  | case1 cur _ => simp
  | case2 cur _ =>
    intro x hx i hi hxi
    cases List.mem_singleton.mp hx
    exact absurd (hxi ▸ List.getElem_mem hi) h
  | case3 cur b rest _ ih =>
    intro x hx
    rcases List.mem_cons.mp hx with rfl | hx
    · exact lfOnlyLast_snoc cur b h
    · exact ih (List.not_mem_nil) x hx
  | case4 cur b rest hnot ih =>
    apply ih
    intro hmem
    rcases List.mem_append.mp hmem with hm | hm
    · exact h hm
    · cases List.mem_singleton.mp hm
      exact hnot rfl

/-- no line ends in CR with the next one beginning with LF -/
def NoCRLFSplit : List Bytes → Prop
  | x :: y :: t => ¬ (x.getLast? = some 0x0D ∧ y.head? = some 0x0A) ∧ NoCRLFSplit (y :: t)
  | _ => True

theorem endsLine_cr (cur rest : Bytes) (h : endsLine cur 0x0D rest = true) :
    rest.head? ≠ some 0x0A := by
  cases rest with
  | nil => simp
  | cons c cs =>
    intro hc
    cases Option.some.inj hc
    exact Bool.false_ne_true h

theorem splitAux_noSplit (cur l : Bytes) : NoCRLFSplit (splitAux cur l) := by
  fun_induction splitAux cur l with
  | case1 cur _ => trivial
  | case2 cur _ => trivial
  | case3 cur b rest hends ih =>
    cases hsp : splitAux [] rest with
    | nil => trivial
    | cons y t =>
      rw [hsp] at ih
      refine ⟨?_, ih⟩
      rintro ⟨hl, hh⟩
      have hb : b = 0x0D := by simpa using hl
      subst hb
      -- the next line begins with the first byte of `rest`; CR before LF does not end a line
      rw [splitAux_first_head rest y t hsp] at hh
      exact endsLine_cr cur rest hends hh
  | case4 cur b rest _ ih => exact ih

/-- the line boundaries of `str.splitlines`: LF, CR, VT, FF, FS, GS, RS, NEL, LS, PS -/
def terminators : List Bytes :=
  [[0x0A], [0x0D], [0x0B], [0x0C], [0x1C], [0x1D], [0x1E], [0xC2, 0x85],
   [0xE2, 0x80, 0xA8], [0xE2, 0x80, 0xA9]]

/-- `x` ends with one of the `terminators` -/
def EndsWithTerm (x : Bytes) : Prop := ∃ body t, x = body ++ t ∧ t ∈ terminators

/-- `P` holds of every element but possibly the last -/
def AllButLast (P : Bytes → Prop) : List Bytes → Prop
  | x :: y :: t => P x ∧ AllButLast P (y :: t)
  | _ => True

theorem snoc_of_getLast? {l : Bytes} {a : UInt8} (h : (l.getLast? == some a) = true) :
    l = l.dropLast ++ [a] := by
  obtain ⟨ys, rfl⟩ := List.getLast?_eq_some_iff.mp (eq_of_beq h)
  simp

theorem endsLine_term (cur : Bytes) (b : UInt8) (rest : Bytes) (h : endsLine cur b rest = true) :
    EndsWithTerm (cur ++ [b]) := by
  unfold endsLine at h
  by_cases h1 : (b == 0x0A || b == 0x0B || b == 0x0C || b == 0x1C || b == 0x1D || b == 0x1E) = true
  · refine ⟨cur, [b], rfl, ?_⟩
    simp only [Bool.or_eq_true] at h1
    rcases h1 with ((((h1 | h1) | h1) | h1) | h1) | h1 <;> cases byte_eq h1
    -- by position in the table: `by decide` compares the byte lists and is several times slower to check
    · exact List.mem_of_getElem? (i := 0) rfl
    · exact List.mem_of_getElem? (i := 2) rfl
    · exact List.mem_of_getElem? (i := 3) rfl
    · exact List.mem_of_getElem? (i := 4) rfl
    · exact List.mem_of_getElem? (i := 5) rfl
    · exact List.mem_of_getElem? (i := 6) rfl
  rw [if_neg h1] at h
  by_cases h2 : (b == 0x0D) = true
  · cases byte_eq h2
    exact ⟨cur, [0x0D], rfl, List.mem_of_getElem? (i := 1) rfl⟩
  rw [if_neg h2] at h
  by_cases h3 : (b == 0x85) = true
  · cases byte_eq h3
    rw [if_pos h3] at h
    refine ⟨cur.dropLast, [0xC2, 0x85], ?_, List.mem_of_getElem? (i := 7) rfl⟩
    conv => lhs; rw [snoc_of_getLast? h]
    exact List.append_assoc _ _ _
  rw [if_neg h3] at h
  by_cases h4 : (b == 0xA8 || b == 0xA9) = true
  · rw [if_pos h4, Bool.and_eq_true] at h
    refine ⟨cur.dropLast.dropLast, [0xE2, 0x80, b], ?_, ?_⟩
    · conv => lhs; rw [snoc_of_getLast? h.1, snoc_of_getLast? h.2]
      simp
    · rw [Bool.or_eq_true] at h4
      rcases h4 with h4 | h4 <;> cases byte_eq h4
      · exact List.mem_of_getElem? (i := 8) rfl
      · exact List.mem_of_getElem? (i := 9) rfl
  rw [if_neg h4] at h
  cases h

theorem splitAux_allButLast (cur l : Bytes) : AllButLast EndsWithTerm (splitAux cur l) := by
  fun_induction splitAux cur l with
  | case1 cur _ => trivial
  | case2 cur _ => trivial
  | case3 cur b rest hends ih =>
    cases hsp : splitAux [] rest with
    | nil => trivial
    | cons y t =>
      rw [hsp] at ih
      exact ⟨endsLine_term cur b rest hends, ih⟩
  | case4 cur b rest _ ih => exact ih

end Lines
