/-
`Testcase.load`: the marker scan in closed form (`loadWith_spec`) and the round trip for any splitter that
meets the contract `SplitOK`, which the splitter files instantiate.
-/
import LithiumModel.Load
import LithiumProofs.Lines

namespace Load

/-- the line contains `DDBEGIN` or `DDEND` -/
def mentionsAny (l : Bytes) : Bool := hasSub DDBEGIN l || hasSub DDEND l

theorem scan1_spec (ls : List Bytes) (acc : Bytes) :
    scan1 ls acc =
      match ls.dropWhile (fun l => !mentionsAny l) with
      | [] => .noMarker
      | m :: rest =>
        if hasSub DDBEGIN m then
          .begin (acc ++ (ls.takeWhile (fun l => !mentionsAny l)).flatten ++ m) rest
        else .endFirst := by
  induction ls generalizing acc with
  | nil => rfl
  | cons l ls ih =>
    rw [scan1, List.dropWhile_cons, List.takeWhile_cons, mentionsAny]
    cases hb : hasSub DDBEGIN l
    · cases he : hasSub DDEND l
      · simp [ih]
      · simp [hb]
    · simp [hb]

theorem scan2_spec (ls : List Bytes) (acc : Bytes) :
    scan2 ls acc =
      match ls.dropWhile (fun l => !hasSub DDEND l) with
      | [] => none
      | e :: post =>
        some (acc ++ (ls.takeWhile (fun l => !hasSub DDEND l)).flatten, e ++ post.flatten) := by
  induction ls generalizing acc with
  | nil => rfl
  | cons l ls ih =>
    rw [scan2, List.dropWhile_cons, List.takeWhile_cons]
    cases he : hasSub DDEND l
    · simp [ih]
    · simp

/-- what every `split_parts` must guarantee: concatenation and one flag per part for the round trip, non-empty
parts for C06's claim about atoms -/
def SplitOK (sp : Splitter) : Prop :=
  ∀ d s, sp d = .ok s →
    s.header ++ s.parts.flatten ++ s.footer = d ∧ (∀ p ∈ s.parts, p ≠ []) ∧
      s.parts.length = s.reducible.length

theorem flatten_takeWhile_dropWhile (p : Bytes → Bool) (ls : List Bytes) :
    (ls.takeWhile p).flatten ++ (ls.dropWhile p).flatten = ls.flatten := by
  rw [← List.flatten_append, List.takeWhile_append_dropWhile]

/-- the end of `Testcase.load`: a splitter's result is wrapped in the protected prefix and suffix, its exception
becomes `Err.internal` -/
def finish (before after : Bytes) : Except String Split → Except Err Testcase
  | .ok s => .ok (mk before after s)
  | .error e => .error (.internal e)

theorem loadWith_spec (sp : Splitter) (d : Bytes) :
    loadWith sp d =
      (let ls := Lines.splitLines d
       match ls.dropWhile (fun l => !mentionsAny l) with
       | [] => finish [] [] (sp ls.flatten)
       | m :: rest =>
         if hasSub DDBEGIN m then
           match rest.dropWhile (fun l => !hasSub DDEND l) with
           | [] => .error .beginWithoutEnd
           | e :: post =>
             finish ((ls.takeWhile (fun l => !mentionsAny l)).flatten ++ m) (e ++ post.flatten)
               (sp (rest.takeWhile (fun l => !hasSub DDEND l)).flatten)
         else .error .endWithoutBegin) := by
  unfold loadWith
  rw [scan1_spec]
  simp only
  cases hdw : (Lines.splitLines d).dropWhile (fun l => !mentionsAny l) with
  | nil =>
    cases sp (Lines.splitLines d).flatten <;> rfl
  | cons m rest =>
    by_cases hb : hasSub DDBEGIN m = true
    · simp only [hb, if_true]
      rw [scan2_spec]
      cases hdw2 : rest.dropWhile (fun l => !hasSub DDEND l) with
      | nil => rfl
      | cons e post =>
        simp only [List.nil_append]
        cases sp (rest.takeWhile (fun l => !hasSub DDEND l)).flatten <;> rfl
    · simp only [hb, if_false, Bool.false_eq_true]

/-- the weaker contract (no claim about empty parts) -/
def SplitCat (sp : Splitter) : Prop :=
  ∀ d s, sp d = .ok s → s.header ++ s.parts.flatten ++ s.footer = d ∧ s.parts.length = s.reducible.length

theorem finish_ok (b a : Bytes) (r : Except String Split) (t : Testcase) (h : finish b a r = .ok t) :
    ∃ s, r = .ok s ∧ t = mk b a s := by
  cases r with
  | error e => cases h
  | ok s => exact ⟨s, rfl, by injection h with h; exact h.symm⟩

theorem loadWith_cases (sp : Splitter) (d : Bytes) :
    loadWith sp d = .error .endWithoutBegin ∨ loadWith sp d = .error .beginWithoutEnd ∨
      ∃ b x a, b ++ x ++ a = d ∧ loadWith sp d = finish b a (sp x) := by
  rw [loadWith_spec]
  have hfl := Lines.splitLines_flatten d
  generalize Lines.splitLines d = ls at hfl
  have htd := flatten_takeWhile_dropWhile (fun l => !mentionsAny l) ls
  simp only
  split
  · exact .inr (.inr ⟨[], _, [], by simpa using hfl, rfl⟩)
  · rename_i m rest hdw
    split
    · have htd2 := flatten_takeWhile_dropWhile (fun l => !hasSub DDEND l) rest
      split
      · exact .inr (.inl rfl)
      · rename_i e post hdw2
        refine .inr (.inr ⟨_, _, _, ?_, rfl⟩)
        rw [hdw] at htd
        rw [hdw2] at htd2
        simp only [List.flatten_cons] at htd htd2
        rw [← hfl, ← htd, ← htd2]
        simp only [List.append_assoc]
    · exact .inl rfl

theorem loadWith_ok_inv (sp : Splitter) (d : Bytes) (t : Testcase) (h : loadWith sp d = .ok t) :
    ∃ b x a s, sp x = .ok s ∧ t = mk b a s ∧ b ++ x ++ a = d := by
  rcases loadWith_cases sp d with h1 | h1 | ⟨b, x, a, hd, h1⟩
  · rw [h1] at h
    cases h
  · rw [h1] at h
    cases h
  · obtain ⟨s, hs, ht⟩ := finish_ok b a _ t (h1 ▸ h)
    exact ⟨b, x, a, s, hs, ht, hd⟩

theorem loadWith_no_internal (sp : Splitter) (hsp : ∀ x, ∃ s, sp x = .ok s) (d : Bytes) (w : String) :
    loadWith sp d ≠ .error (.internal w) := by
  intro h
  rcases loadWith_cases sp d with h1 | h1 | ⟨b, x, a, -, h1⟩
  · rw [h1] at h
    cases h
  · rw [h1] at h
    cases h
  · obtain ⟨s, hs⟩ := hsp x
    rw [h1, hs] at h
    cases h

theorem loadWith_cat (sp : Splitter) (hsp : SplitCat sp) (d : Bytes) (t : Testcase)
    (h : loadWith sp d = .ok t) : t.content = d ∧ t.WF := by
  obtain ⟨b, x, a, s, hs, rfl, rfl⟩ := loadWith_ok_inv sp d t h
  obtain ⟨h1, h3⟩ := hsp _ _ hs
  exact ⟨by simp [Testcase.content, mk, ← h1], h3⟩

theorem loadWith_ok (sp : Splitter) (hsp : SplitOK sp) (d : Bytes) (t : Testcase)
    (h : loadWith sp d = .ok t) :
    t.content = d ∧ (∀ p ∈ t.parts, p ≠ []) ∧ t.WF := by
  obtain ⟨b, x, a, s, hs, rfl, rfl⟩ := loadWith_ok_inv sp d t h
  obtain ⟨h1, h2, h3⟩ := hsp _ _ hs
  exact ⟨by simp [Testcase.content, mk, ← h1], h2, h3⟩

theorem splitLine_ok : SplitOK splitLine := by
  intro d s h
  simp only [splitLine, Except.ok.injEq] at h
  subst h
  refine ⟨by simp [Lines.splitLines_flatten], Lines.splitAux_nonempty [] d, by simp⟩

theorem splitChar_ok : SplitOK splitChar := by
  intro d s h
  simp only [splitChar, Except.ok.injEq] at h
  subst h
  refine ⟨by simp [← List.flatMap_def], ?_, by simp⟩
  intro p hp
  simp only [List.mem_map] at hp
  obtain ⟨b, _, rfl⟩ := hp
  simp

theorem charPost_ok (t : Testcase) (d : Bytes)
    (h : t.content = d ∧ (∀ p ∈ t.parts, p ≠ []) ∧ t.WF) :
    (charPost t).content = d ∧ (∀ p ∈ (charPost t).parts, p ≠ []) ∧ (charPost t).WF := by
  obtain ⟨h1, h2, h3⟩ := h
  unfold charPost
  split
  · rename_i hc
    rw [Bool.and_eq_true] at hc
    have hne : t.parts ≠ [] := by simpa using hc.2
    refine ⟨?_, fun p hp => h2 p (List.dropLast_subset _ hp), ?_⟩
    · rw [← h1, Testcase.content, Testcase.content, List.getLast?_eq_some_getLast hne]
      conv => rhs; rw [← List.dropLast_concat_getLast hne]
      simp
    · simp only [Testcase.WF, List.length_dropLast]
      exact congrArg (· - 1) h3
  · exact ⟨h1, h2, h3⟩

theorem loadChar_cases (d : Bytes) :
    (∃ t0, loadWith splitChar d = .ok t0 ∧ loadChar d = .ok (charPost t0)) ∨
      ∃ e, loadWith splitChar d = .error e ∧ loadChar d = .error e := by
  unfold loadChar
  cases loadWith splitChar d with
  | ok t0 => exact .inl ⟨t0, rfl, rfl⟩
  | error e => exact .inr ⟨e, rfl, rfl⟩

end Load
