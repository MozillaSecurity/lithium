/-
The loop of `Minimize.reduce` with any post-round callback: its induction rule, a termination
measure for every callback that does not enlarge the testcase, and the rules that carry invariants
through it (`minLoop_inv`, `minLoop_potential` for minimize; `minLoop_keeps` for `Kept`).
-/
import LithiumProofs.Minimize
import LithiumProofs.Deletion

namespace Strat
open Testcase

/-- `motive fuel st it r` is what is claimed of the result `r` of the loop run from `(st, it)` -/
theorem minLoop_induct (cfg : Cfg) (o : Oracle) (clk : Clock) (stopAt : Option Nat) (post : It → It)
    {motive : Nat → MinSt → It → It → Prop}
    (fuel0 : ∀ st it, motive 0 st it { it with outOfFuel := true })
    (exit : ∀ f st it it', roundPhase cfg clk stopAt post st it = .inl it' → motive (f + 1) st it it')
    (step : ∀ f st it st' it' r, roundPhase cfg clk stopAt post st it = .inr (st', it') →
      motive f (attempt o st' it').1 (attempt o st' it').2 r → motive (f + 1) st it r) :
    ∀ fuel st it, motive fuel st it (minLoop cfg o clk stopAt post fuel st it) := by
  intro fuel
  induction fuel with
  | zero => exact fuel0
  | succ f ih =>
    intro st it
    unfold minLoop minStep
    cases h : roundPhase cfg clk stopAt post st it with
    | inl it' => exact exit f st it it' h
    | inr p => exact step f st it p.1 p.2 _ h (ih _ _)

/-- a size that drops when a non-empty block is deleted: the number of atoms, or the number of
bytes when no atom is empty; `G` is that side condition on the testcase -/
structure SizeOK (G : Testcase → Prop) (μ : Testcase → Nat) : Prop where
  len : ∀ t, t.WF → G t → t.len ≤ μ t
  rm : ∀ t (s e : Int), t.WF → G t → 0 ≤ s → s < e → e ≤ (t.len : Int) →
    G (t.rmslice s e) ∧ μ (t.rmslice s e) + 1 ≤ μ t

structure Counts (k : Nat) (it it' : It) : Prop where
  tests : it'.nTests ≤ it.nTests + k
  fuel : it'.outOfFuel = it.outOfFuel
  err : it'.internalError = it.internalError

/-- what the loop needs of its post-round callback: a new best testcase comes only through `try`,
so that its bytes are known -/
structure PostStep (G : Testcase → Prop) (μ : Testcase → Nat) (k : Nat) (it it' : It) : Prop
    extends Counts k it it' where
  wf : it'.best.WF
  g : G it'.best
  size : μ it'.best ≤ μ it.best
  known : it'.best.len ≠ 0 ∨ it'.tried.contains it'.best.content = true

def PostOK (G : Testcase → Prop) (μ : Testcase → Nat) (k : Nat) (post : It → It) : Prop :=
  ∀ it, it.best.WF → G it.best → it.best.len ≠ 0 → PostStep G μ k it (post it)

structure LoopInv (G : Testcase → Prop) (μ : Testcase → Nat) (N : Nat) (st : MinSt) (it : It) : Prop
    extends MInv N st it where
  g : G it.best
  sz : μ it.best ≤ N

/-- there is a block, or (after a callback that left no atom) the candidate is the best testcase
itself, whose bytes are known -/
def Ready (st : MinSt) (it : It) : Prop :=
  1 ≤ st.chunkEnd ∨ (st.chunkEnd = 0 ∧ it.tried.contains it.best.content = true)

/-- two levels: the sum `μ best + log2 chunkSize + removed`, then the position in the round.  An
accepted candidate lowers the position and does not raise the sum (`μ` at least −1, `removed` +1);
the end of a round raises the position and lowers the sum (it halves the chunk size or clears `removed`).  `N + 1` is room for the position
`chunkEnd + 1 ≤ len + 1`; the `+ 1` lets it drop from `chunkEnd = 0` (second case of `Ready`). -/
def Phi (μ : Testcase → Nat) (N : Nat) (st : MinSt) (it : It) : Nat :=
  (μ it.best + Nat.log2 st.chunkSize + (if st.removed then 1 else 0)) * (N + 1) + (st.chunkEnd + 1).toNat

theorem lex_le {a a' b n : Nat} (ha : a' + 1 ≤ a) (hb : b ≤ n) : a' * n + b ≤ a * n :=
  calc a' * n + b ≤ (a' + 1) * n := by rw [Nat.succ_mul]; omega
    _ ≤ a * n := Nat.mul_le_mul_right _ ha

theorem toNat_succ_lt {a b : Int} (h0 : 0 ≤ a) (h : b < a) : (b + 1).toNat < (a + 1).toNat := by
  omega

section
variable {G : Testcase → Prop} {μ : Testcase → Nat} {k N : Nat} {post : It → It}
  {cfg : Cfg} {o : Oracle} {clk : Clock} {stopAt : Option Nat} {st st' : MinSt} {it it' : It}

theorem round_step (S : SizeOK G μ) (hp : PostOK G μ k post) (h : LoopInv G μ N st it)
    (hr : roundPhase cfg clk stopAt post st it = .inr (st', it')) :
    LoopInv G μ N st' it' ∧ Ready st' it' ∧ Phi μ N st' it' ≤ Phi μ N st it ∧ Counts k it it' := by
  obtain ⟨-, ⟨hre, rfl, rfl⟩ | ⟨hre, h0, rfl, hrd⟩⟩ := roundPhase_inr hr
  · exact ⟨h, Or.inl (by have := h.cs; omega), Nat.le_refl _, Nat.le_add_right _ _, rfl, rfl⟩
  · have p := hp it h.wf h.g h0
    obtain ⟨cs', rfl, hcs⟩ := roundDecision_some hrd
    have key : 1 ≤ cs' ∧ Nat.log2 cs' + 1 ≤ Nat.log2 st.chunkSize + (if st.removed then 1 else 0) := by
      rcases hcs with ⟨rfl, hrm, -, -⟩ | ⟨rfl, hlt⟩
      · simp [hrm, h.cs]
      · have h2 : 2 ≤ st.chunkSize := by have := h.mc; omega
        obtain ⟨a, b⟩ := halveBelow_le_half st.chunkSize st.chunkSize (post it).best.len (by omega) h2
        exact ⟨a, Nat.le_trans (Util.log2_succ_le_of_le_half _ _ h2 b) (Nat.le_add_right _ _)⟩
    have hsz : μ (post it).best ≤ N := Nat.le_trans p.size h.sz
    have hlen : (post it).best.len ≤ N := Nat.le_trans (S.len _ p.wf p.g) hsz
    have hsize := p.size
    refine ⟨⟨⟨p.wf, key.1, h.mc, Int.le_refl _, hlen⟩, p.g, hsz⟩, ?_, ?_, p.toCounts⟩
    · by_cases hz : (post it).best.len = 0
      · exact Or.inr ⟨by simp [hz], p.known.resolve_left (by simp [hz])⟩
      · exact Or.inl (Int.natCast_pos.2 (Nat.pos_of_ne_zero hz))
    · exact Nat.le_trans (lex_le (by simp only [Bool.false_eq_true, if_false]; omega) (by simp only; omega))
        (Nat.le_add_right _ _)

theorem attempt_step (S : SizeOK G μ) (h : LoopInv G μ N st it) (hr : Ready st it) :
    LoopInv G μ N (attempt o st it).1 (attempt o st it).2 ∧
    Phi μ N (attempt o st it).1 (attempt o st it).2 < Phi μ N st it ∧
    Counts 1 it (attempt o st it).2 := by
  have hcs := h.cs
  have hce := h.ce
  have hce0 : 0 ≤ st.chunkEnd := by rcases hr with h1 | ⟨h1, -⟩ <;> omega
  have hstep : ∀ it2 : It, it2.best = it.best →
      LoopInv G μ N { st with chunkEnd := st.chunkEnd - stepBack st } it2 ∧
      Phi μ N { st with chunkEnd := st.chunkEnd - stepBack st } it2 < Phi μ N st it := by
    intro it2 hb
    have hsb : 1 ≤ stepBack st := by unfold stepBack; split <;> omega
    refine ⟨⟨⟨hb ▸ h.wf, hcs, h.mc, by rw [hb]; simp only; omega, hb ▸ h.len⟩, hb ▸ h.g, hb ▸ h.sz⟩, ?_⟩
    unfold Phi
    rw [hb]
    exact Nat.add_lt_add_left (toNat_succ_lt hce0 (by simp only; omega)) _
  rcases attempt_eq o st it with ⟨-, e⟩ | ⟨hc, -, e⟩ | ⟨-, -, e⟩ <;> rw [e]
  · exact ⟨(hstep _ (by rfl)).1, (hstep _ (by rfl)).2, Nat.le_succ _, rfl, rfl⟩
  · -- a real block: the empty block gives the best testcase again, whose bytes are known
    have h1 : 1 ≤ st.chunkEnd := by
      rcases hr with h1 | ⟨h1, htr⟩
      · exact h1
      · have h0 : blockStart st = 0 := by
          have := blockStart_bounds st
          omega
        rw [h0, h1, rmslice_zero_content _ h.wf, htr] at hc
        exact absurd hc (by simp)
    have hs0 := (blockStart_bounds st).1
    have hse := (blockStart_bounds st).2.2 hcs h1
    have c1 := (isDel_rmslice h.wf hs0 (Int.le_of_lt hse)).wf
    have c5 := rmslice_len_of_le h.wf hs0 (Int.le_of_lt hse) hce
    obtain ⟨g', hμ⟩ := S.rm _ _ _ h.wf h.g hs0 hse hce
    have hsz := h.sz
    have hlen := h.len
    refine ⟨⟨⟨c1, hcs, h.mc, by simp only; omega, by simp only; omega⟩, g', by simp only; omega⟩, ?_,
      Nat.le_refl _, rfl, rfl⟩
    unfold Phi
    simp only [if_true]
    exact Nat.add_lt_add_of_le_of_lt (Nat.mul_le_mul_right _ (by omega)) (toNat_succ_lt hce0 hse)
  · exact ⟨(hstep _ (by rfl)).1, (hstep _ (by rfl)).2, Nat.le_refl _, rfl, rfl⟩

theorem exit_step (hp : PostOK G μ k post) (h : LoopInv G μ N st it)
    (hr : roundPhase cfg clk stopAt post st it = .inl it') :
    Counts k it it' := by
  rcases roundPhase_inl hr with ⟨-, rfl⟩ | ⟨-, ⟨-, rfl⟩ | ⟨h0, rfl, -⟩⟩
  · exact ⟨Nat.le_add_right _ _, rfl, rfl⟩
  · exact ⟨Nat.le_add_right _ _, rfl, rfl⟩
  · exact (hp it h.wf h.g h0).toCounts

/-- `k + 1` tests per iteration, `k` of them in the callback; the last `+ k` is the callback of the
iteration that exits -/
theorem minLoop_bound (S : SizeOK G μ) (hp : PostOK G μ k post) :
    ∀ fuel st it, LoopInv G μ N st it → Phi μ N st it < fuel →
      (minLoop cfg o clk stopAt post fuel st it).outOfFuel = it.outOfFuel ∧
      (minLoop cfg o clk stopAt post fuel st it).internalError = it.internalError ∧
      (minLoop cfg o clk stopAt post fuel st it).nTests ≤ it.nTests + (k + 1) * Phi μ N st it + k := by
  refine minLoop_induct cfg o clk stopAt post (motive := fun f st it r => LoopInv G μ N st it →
    Phi μ N st it < f → r.outOfFuel = it.outOfFuel ∧ r.internalError = it.internalError ∧
      r.nTests ≤ it.nTests + (k + 1) * Phi μ N st it + k) ?_ ?_ ?_
  · intro st it _ h; omega
  · intro f st it it' hr h _
    have c := exit_step hp h hr
    exact ⟨c.fuel, c.err, by have := c.tests; omega⟩
  · intro f st it st' it' r hr ih h hlt
    obtain ⟨hinv, hready, hphi, cr⟩ := round_step S hp h hr
    obtain ⟨hinv', hphi', ca⟩ := attempt_step (o := o) S hinv hready
    obtain ⟨e1, e2, hn⟩ := ih hinv' (by omega)
    refine ⟨by rw [e1, ca.fuel, cr.fuel], by rw [e2, ca.err, cr.err], ?_⟩
    have := Nat.mul_le_mul_left (k + 1) (Nat.le_trans hphi' hphi)
    rw [Nat.mul_succ] at this
    have := cr.tests
    have := ca.tests
    omega

end

/-! ### `Minimize.reduce` itself: no callback, size = number of atoms -/

theorem sizeOK_len : SizeOK (fun _ => True) Testcase.len where
  len := fun _ _ _ => Nat.le_refl _
  rm := fun t s e h _ h0 hse hel => by
    have c5 := rmslice_len_of_le h h0 (Int.le_of_lt hse) hel
    exact ⟨trivial, by omega⟩

theorem postOK_id (G : Testcase → Prop) (μ : Testcase → Nat) : PostOK G μ 0 id :=
  fun _ h g h0 => ⟨⟨Nat.le_refl _, rfl, rfl⟩, h, g, Nat.le_refl _, Or.inl h0⟩

theorem MInv.loopInv {n0 : Nat} {st : MinSt} {it : It} (h : MInv n0 st it) :
    LoopInv (fun _ => True) Testcase.len n0 st it := ⟨h, trivial, h.len⟩

theorem round_step_id {cfg : Cfg} {clk : Clock} {stopAt : Option Nat} {n0 : Nat} {st st' : MinSt} {it it' : It}
    (h : MInv n0 st it) (hr : roundPhase cfg clk stopAt id st it = .inr (st', it')) :
    it' = it ∧ AInv n0 st' it ∧ Phi Testcase.len n0 st' it ≤ Phi Testcase.len n0 st it := by
  obtain ⟨a1, -, a3, -⟩ := round_step sizeOK_len (postOK_id _ _) h.loopInv hr
  obtain ⟨-, ⟨hre, rfl, rfl⟩ | ⟨-, h0, rfl, hrd⟩⟩ := roundPhase_inr hr
  · exact ⟨rfl, ⟨a1.toMInv, by have := h.cs; omega, fun hneg => by omega⟩, a3⟩
  · obtain ⟨cs', rfl, -⟩ := roundDecision_some hrd
    exact ⟨rfl, ⟨a1.toMInv, by simp only [id]; omega, fun _ => rfl⟩, a3⟩

/-- the result `r` of the loop run from `(st, it)` is, up to the two flags the loop itself sets,
the iterator of a loop state `(st', it')`; every new log entry is the `minAtt` of a state that
satisfied `P'` (the invariant when a candidate is about to be built); with fuel above the measure
`r` is an exit of `(st', it')` -/
structure LoopEnds (cfg : Cfg) (clk : Clock) (stopAt : Option Nat) (n0 : Nat) (P P' : MinSt → It → Prop)
    (fuel : Nat) (st : MinSt) (it r : It) (st' : MinSt) (it' : It) : Prop where
  inv : MInv n0 st' it'
  top : P st' it'
  log : ∀ a ∈ it'.atts, a ∈ it.atts ∨ ∃ st₁ it₁ r, AInv n0 st₁ it₁ ∧ P' st₁ it₁ ∧ a = minAtt st₁ it₁ r
  flags : ∃ b1 b2, r = { it' with outOfFuel := b1, deadlineStop := b2 }
  exit : Phi Testcase.len n0 st it < fuel → roundPhase cfg clk stopAt id st' it' = .inl r

/-- `P` at the top of an iteration, `P'` when a candidate is about to be built -/
theorem minLoop_inv (cfg : Cfg) (o : Oracle) (clk : Clock) (stopAt : Option Nat) (n0 : Nat)
    (P P' : MinSt → It → Prop)
    -- the callback is `id`: the round phase hands on the iterator it got
    (hround : ∀ st it st', MInv n0 st it → P st it →
      roundPhase cfg clk stopAt id st it = .inr (st', it) → P' st' it)
    (hatt : ∀ st it, AInv n0 st it → P' st it → P (attempt o st it).1 (attempt o st it).2) :
    ∀ (fuel : Nat) (st : MinSt) (it : It), MInv n0 st it → P st it →
      ∃ st' it', LoopEnds cfg clk stopAt n0 P P' fuel st it (minLoop cfg o clk stopAt id fuel st it) st' it' := by
  refine minLoop_induct cfg o clk stopAt id (motive := fun f st it r => MInv n0 st it → P st it →
    ∃ st' it', LoopEnds cfg clk stopAt n0 P P' f st it r st' it') ?_ ?_ ?_
  · exact fun st it hi hp => ⟨st, it, hi, hp, fun _ ha => Or.inl ha, ⟨true, _, rfl⟩,
      fun h => absurd h (Nat.not_lt_zero _)⟩
  · intro f st it it' hr hi hp
    refine ⟨st, it, hi, hp, fun _ ha => Or.inl ha, ?_, fun _ => hr⟩
    rcases roundPhase_inl hr with ⟨-, rfl⟩ | ⟨-, ⟨-, rfl⟩ | ⟨-, rfl, -⟩⟩
    · exact ⟨_, true, rfl⟩
    · exact ⟨_, _, rfl⟩
    · exact ⟨_, _, rfl⟩
  · intro f st it st' it' r hr ih hi hp
    obtain ⟨rfl, ha, hphi⟩ := round_step_id hi hr
    have hp' := hround _ _ _ hi hp hr
    obtain ⟨b1, b2, -⟩ := attempt_step (o := o) sizeOK_len ha.toMInv.loopInv (Or.inl ha.ce1)
    obtain ⟨st2, it2, c1, c2, c3, c4, c5⟩ := ih b1.toMInv (hatt _ _ ha hp')
    refine ⟨st2, it2, c1, c2, fun a ha2 => ?_, c4, fun hlt => c5 (by omega)⟩
    rcases c3 a ha2 with h1 | h1
    · rw [attempt_snd, try_atts, List.mem_cons] at h1
      exact h1.elim (fun h => Or.inr ⟨_, _, _, ha, hp', h⟩) Or.inl
    · exact Or.inr h1

/-- the potential `Ψ` does not grow over `roundPhase` and pays for the tests of `attempt` -/
theorem minLoop_potential (cfg : Cfg) (o : Oracle) (clk : Clock) (stopAt : Option Nat) (n0 : Nat)
    (P P' : MinSt → It → Prop) (Ψ : MinSt → It → Nat)
    (hround : ∀ st it st', MInv n0 st it → P st it →
      roundPhase cfg clk stopAt id st it = .inr (st', it) → P' st' it ∧ Ψ st' it ≤ Ψ st it)
    (hatt : ∀ st it, AInv n0 st it → P' st it →
      P (attempt o st it).1 (attempt o st it).2 ∧
      (attempt o st it).2.nTests + Ψ (attempt o st it).1 (attempt o st it).2 ≤ it.nTests + Ψ st it) :
    ∀ (fuel : Nat) (st : MinSt) (it : It), MInv n0 st it → P st it →
      (minLoop cfg o clk stopAt id fuel st it).nTests ≤ it.nTests + Ψ st it := by
  intro fuel st it hi hp
  -- the sum of tests made and potential never exceeds its value at the start
  obtain ⟨st', it', -, ⟨-, hB⟩, -, ⟨b1, b2, e⟩, -⟩ := minLoop_inv cfg o clk stopAt n0
    (fun st' it' => P st' it' ∧ it'.nTests + Ψ st' it' ≤ it.nTests + Ψ st it)
    (fun st' it' => P' st' it' ∧ it'.nTests + Ψ st' it' ≤ it.nTests + Ψ st it)
    (fun st1 it1 st2 hi1 hp1 hr => ⟨(hround st1 it1 st2 hi1 hp1.1 hr).1,
      Nat.le_trans (Nat.add_le_add_left (hround st1 it1 st2 hi1 hp1.1 hr).2 _) hp1.2⟩)
    (fun st1 it1 ha hp1 => ⟨(hatt st1 it1 ha hp1.1).1, Nat.le_trans (hatt st1 it1 ha hp1.1).2 hp1.2⟩)
    fuel st it hi ⟨hp, Nat.le_refl _⟩
  rw [e]
  exact Nat.le_trans (Nat.le_add_right _ _) hB

/-- `sa` is the deadline `Q` may rely on: the loop's own when the callback runs no test, none
otherwise (after the callback the clock is not looked at again) -/
theorem minLoop_keeps {cfg : Cfg} {o : Oracle} {clk : Clock} {stopAt sa : Option Nat} {post : It → It}
    {Q : It → Prop} (hQ : Kept o clk sa CutChain Q) (hpost : ∀ it, Q it → Q (post it))
    (hsa : ∀ it, deadlinePassed stopAt clk it = false →
      deadlinePassed sa clk it = false ∧ deadlinePassed sa clk (post it) = false) :
    ∀ (fuel : Nat) (st : MinSt) (it : It), Q it → Q (minLoop cfg o clk stopAt post fuel st it) := by
  refine minLoop_induct cfg o clk stopAt post (motive := fun _ _ it r => Q it → Q r) ?_ ?_ ?_
  · exact fun _ it h => hQ.flags it _ _ _ h
  · intro f st it it' hr h
    rcases roundPhase_inl hr with ⟨-, rfl⟩ | ⟨-, ⟨-, rfl⟩ | ⟨-, rfl, -⟩⟩
    · exact hQ.flags it _ _ _ h
    · exact h
    · exact hpost _ h
  · intro f st it st' it' r hr ih h
    apply ih
    rw [attempt_snd]
    obtain ⟨hd, hc⟩ := roundPhase_inr hr
    have key : Q it' ∧ deadlinePassed sa clk it' = false ∧ 0 ≤ st'.chunkEnd := by
      rcases hc with ⟨hre, rfl, rfl⟩ | ⟨-, -, rfl, hrd⟩
      · exact ⟨h, (hsa _ hd).1, by omega⟩
      · obtain ⟨cs', rfl, -⟩ := roundDecision_some hrd
        exact ⟨hpost _ h, (hsa _ hd).2, Int.natCast_nonneg _⟩
    exact hQ.step it' _ _ key.1 key.2.1
      (CutChain.rm _ _ CutChain.refl (blockStart_bounds st').1 ((blockStart_bounds st').2.1 key.2.2))
      (fun _ => ⟨rfl, rfl, rfl⟩)

theorem minimize_keeps {cfg : Cfg} {o : Oracle} {clk : Clock} {Q : It → Prop}
    (hQ : Kept o clk (stopAt cfg clk) CutChain Q) (t : Testcase) (h : Q { best := t }) : Q (minimize cfg o clk t) :=
  minLoop_keeps hQ (fun _ h => h) (fun _ h => ⟨h, h⟩) _ _ _ h

theorem collapse_keeps {reload : Bytes → Option Testcase} {cfg : Cfg} {o : Oracle} {clk : Clock} {Q : It → Prop}
    (hQ : Kept o clk none CutChain Q) (hpost : ∀ it, Q it → Q (collapsePost reload o it)) (t : Testcase)
    (h : Q { best := t }) : Q (collapse reload cfg o clk t) :=
  minLoop_keeps hQ hpost (fun _ _ => ⟨rfl, rfl⟩) _ _ _ h

theorem minInit_Phi_le (cfg : Cfg) (t : Testcase) (μ : Testcase → Nat) (N L : Nat) (hμ : μ t ≤ N)
    (hlen : t.len ≤ N) (hL : Nat.log2 (min cfg.max (Util.lp2 t.len)) ≤ L) :
    Phi μ N (minInit cfg t) { best := t } ≤ (N + L + 2) * (N + 1) := by
  unfold Phi
  rw [minInit_chunkSize, minInit_removed, minInit_chunkEnd]
  dsimp only
  calc _ ≤ (N + L + 1) * (N + 1) + (N + 1) :=
        Nat.add_le_add (Nat.mul_le_mul_right _ (by split <;> omega)) (by omega)
    _ = _ := (Nat.succ_mul _ _).symm

/-- `minFuel` has `a = c = 4`, `collapseFuel` `a = 6`, `c = 8`: slack; fuel counts iterations, not
the tests of the callback -/
theorem fuel_enough (N a c : Nat) (ha : 2 ≤ a) (hc : 1 ≤ c) :
    (N + Nat.log2 (N + 1) + 2) * (N + 1) < (N + 2) * (N + Nat.log2 (N + 1) + a) + c := by
  have := Nat.mul_le_mul (show N + 1 ≤ N + 2 by omega) (show N + Nat.log2 (N + 1) + 2 ≤ N + Nat.log2 (N + 1) + a by omega)
  rw [Nat.mul_comm]
  omega

theorem minimize_fuel (cfg : Cfg) (t : Testcase) :
    Phi Testcase.len t.len (minInit cfg t) { best := t } < minFuel t :=
  Nat.lt_of_le_of_lt
    (minInit_Phi_le cfg t Testcase.len t.len _ (Nat.le_refl _) (Nat.le_refl _)
      (log2_start_le cfg.max t.len))
    (fuel_enough t.len 4 4 (by omega) (by omega))

/-- `minLoop_inv` at a run of `minimize`, whose fuel is above the measure -/
theorem minimize_inv (cfg : Cfg) (o : Oracle) (clk : Clock) (t : Testcase) (h : t.WF) (hmax : 1 ≤ cfg.max)
    (P P' : MinSt → It → Prop)
    (hround : ∀ st it st', MInv t.len st it → P st it →
      roundPhase cfg clk (stopAt cfg clk) id st it = .inr (st', it) → P' st' it)
    (hatt : ∀ st it, AInv t.len st it → P' st it → P (attempt o st it).1 (attempt o st it).2)
    (h0 : P (minInit cfg t) { best := t }) :
    ∃ st' it', MInv t.len st' it' ∧ P st' it' ∧
      (minimize cfg o clk t).atts = it'.atts ∧
      (∀ a ∈ it'.atts, ∃ st₁ it₁ r, AInv t.len st₁ it₁ ∧ P' st₁ it₁ ∧ a = minAtt st₁ it₁ r) ∧
      roundPhase cfg clk (stopAt cfg clk) id st' it' = .inl (minimize cfg o clk t) := by
  obtain ⟨st', it', hi, hP, hlog, ⟨b1, b2, e⟩, hexit⟩ := minLoop_inv cfg o clk (stopAt cfg clk) t.len P P'
    hround hatt (minFuel t) _ _ (minInit_inv cfg t h hmax) h0
  have hexit' := hexit (minimize_fuel cfg t)
  unfold minimize
  rw [e] at hexit' ⊢
  exact ⟨st', it', hi, hP, rfl, fun a ha => (hlog a ha).resolve_left (by simp), hexit'⟩

end Strat
