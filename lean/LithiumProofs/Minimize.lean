/-
The minimize loop, one function at a time: what `halveBelow`, `attempt`, `roundDecision` and
`roundPhase` do, in the form the proofs about the loop use (C03, C04, C09, C10, C14).
-/
import LithiumProofs.Iter
import LithiumProofs.Util

namespace Strat
open Testcase Util

/-- for ANY chunk size (that it is a power of two is not part of `MInv`); the closed form below needs the power -/
theorem halveBelow_bounds (f cs n : Nat) : halveBelow f cs n ≤ cs ∧ (1 ≤ cs → 1 ≤ halveBelow f cs n) := by
  induction f generalizing cs with
  | zero => exact ⟨Nat.le_refl _, id⟩
  | succ f ih =>
    unfold halveBelow
    by_cases h1 : cs > 1
    · rw [if_pos h1]
      simp only
      by_cases h2 : cs / 2 < n
      · rw [if_pos h2]
        exact ⟨Nat.div_le_self _ _, fun _ => by omega⟩
      · rw [if_neg h2]
        have := ih (cs / 2)
        exact ⟨Nat.le_trans this.1 (Nat.div_le_self _ _), fun _ => this.2 (by omega)⟩
    · rw [if_neg h1]
      exact ⟨Nat.le_refl _, id⟩

theorem halveBelow_le_half (f cs n : Nat) (hf : 1 ≤ f) (hcs : 2 ≤ cs) :
    1 ≤ halveBelow f cs n ∧ halveBelow f cs n ≤ cs / 2 := by
  obtain ⟨f, rfl⟩ : ∃ f', f = f' + 1 := ⟨f - 1, by omega⟩
  unfold halveBelow
  rw [if_pos (by omega)]
  simp only
  by_cases h2 : cs / 2 < n
  · rw [if_pos h2]
    omega
  · rw [if_neg h2]
    have := halveBelow_bounds f (cs / 2) n
    exact ⟨this.2 (by omega), this.1⟩

theorem halveBelow_one (f n : Nat) : halveBelow f 1 n = 1 :=
  Nat.le_antisymm (halveBelow_bounds f 1 n).1 ((halveBelow_bounds f 1 n).2 (Nat.le_refl 1))

theorem halveBelow_two_pow (f k n : Nat) (hf : k < f) :
    halveBelow f (2 ^ (k + 1)) n = min (2 ^ k) (lp2 n) := by
  induction f generalizing k with
  | zero => omega
  | succ f ih =>
    have hhalf : 2 ^ (k + 1) / 2 = 2 ^ k := by rw [Nat.pow_succ, Nat.mul_div_cancel _ (by omega)]
    unfold halveBelow
    rw [if_pos (Nat.one_lt_two_pow (Nat.succ_ne_zero k))]
    simp only [hhalf]
    split
    · -- `2^k < n`: then `2^k ≤ lp2 n`, the largest such power
      rename_i hlt
      exact (Nat.min_eq_left (Nat.le_of_not_lt fun h => Nat.not_le_of_lt hlt (le_of_lp2_lt_pow n k h))).symm
    · -- `n ≤ 2^k`: the halving goes on, and `lp2 n` is below all of it
      rename_i hge
      cases k with
      | zero => rw [halveBelow_one, lp2_le_one n (Nat.le_of_not_lt hge)]; rfl
      | succ k =>
        have := lp2_le_pow n k (Nat.le_of_not_lt hge)
        rw [ih k (by omega), Nat.min_eq_right this,
          Nat.min_eq_right (Nat.le_trans this (Nat.pow_le_pow_right (by omega) (Nat.le_succ k)))]

/-- the call the model makes -/
theorem halveBelow_self_two_pow (k n : Nat) :
    halveBelow (2 ^ (k + 1)) (2 ^ (k + 1)) n = min (2 ^ k) (lp2 n) :=
  halveBelow_two_pow _ k n (Nat.lt_trans (Nat.lt_succ_self k) Nat.lt_two_pow_self)

/-- the next chunk size is `2^j`; if sizes were skipped (`j < k`) at most two chunks of it remain -/
theorem min_two_pow_lp2 (k n : Nat) :
    ∃ j, j ≤ k ∧ min (2 ^ k) (lp2 n) = 2 ^ j ∧ (2 ^ j < n ∨ 2 ^ j = 1) ∧ (j < k → n ≤ 2 ^ (j + 1)) := by
  have h1 : 1 ≤ 2 ^ k := Nat.one_le_two_pow
  rcases Nat.le_total (2 ^ k) (lp2 n) with h | h
  · refine ⟨k, Nat.le_refl _, Nat.min_eq_left h, ?_, fun hlt => absurd hlt (Nat.lt_irrefl _)⟩
    rcases lp2_lt_or n with h3 | h3
    · exact Or.inl (Nat.lt_of_le_of_lt h h3)
    · exact Or.inr (by omega)
  · rw [Nat.min_eq_right h]
    have h2 := le_two_lp2 n
    have h3 := lp2_lt_or n
    rw [lp2_eq] at h h2 h3 ⊢
    exact ⟨_, (Nat.pow_le_pow_iff_right (by omega)).1 h, rfl, h3, fun _ => by rw [Nat.pow_succ]; omega⟩

theorem halveBelow_pow2_spec (f k n : Nat) (hf : k ≤ f) (hk : 1 ≤ k) :
    (halveBelow f (2 ^ k) n = 2 ^ (k - 1) ∨ n ≤ 2 * halveBelow f (2 ^ k) n) ∧
    (halveBelow f (2 ^ k) n < n ∨ halveBelow f (2 ^ k) n = 1) := by
  obtain ⟨k, rfl⟩ : ∃ k', k = k' + 1 := ⟨k - 1, by omega⟩
  obtain ⟨j, hj, e, h2, h3⟩ := min_two_pow_lp2 k n
  rw [halveBelow_two_pow f k n hf, e, Nat.add_sub_cancel]
  refine ⟨?_, h2⟩
  rcases Nat.lt_or_ge j k with h | h
  · exact Or.inr (by rw [Nat.mul_comm, ← Nat.pow_succ]; exact h3 h)
  · exact Or.inl (by rw [Nat.le_antisymm hj h])

/-- at the top of every iteration; `n0` is any bound on the number of reducible atoms -/
structure MInv (n0 : Nat) (st : MinSt) (it : It) : Prop where
  wf : it.best.WF
  cs : 1 ≤ st.chunkSize
  mc : 1 ≤ st.minChunk
  ce : st.chunkEnd ≤ (it.best.len : Int)
  len : it.best.len ≤ n0

theorem MInv.mono {n n' : Nat} {st : MinSt} {it : It} (h : MInv n st it) (hn : n ≤ n') : MInv n' st it :=
  ⟨h.wf, h.cs, h.mc, h.ce, Nat.le_trans h.len hn⟩

/-- when a candidate is about to be built -/
structure AInv (n0 : Nat) (st : MinSt) (it : It) : Prop extends MInv n0 st it where
  ce1 : 1 ≤ st.chunkEnd
  -- only the first block of a round can start below 0: it is the whole remainder
  edge : st.chunkEnd - (st.chunkSize : Int) < 0 → st.chunkEnd = (it.best.len : Int)

/-- `chunk_start = max(0, chunk_end - chunk_size)` (strategies.py:510) -/
def blockStart (st : MinSt) : Int := max 0 (st.chunkEnd - st.chunkSize)

/-- what `chunk_end` goes down by after a candidate that was not accepted (strategies.py:527-530) -/
def stepBack (st : MinSt) : Int := if st.chunkSize ≤ 2 then 1 else (st.chunkSize : Int)

/-- the log entry of the candidate built in state `st` -/
def minAtt (st : MinSt) (it : It) (r : Resp) : Att :=
  { tag := 0, lo := (blockStart st).toNat, hi := st.chunkEnd.toNat, size := st.chunkSize,
    bestLen := it.best.len, base := it.best, tIdx := it.nTests,
    cand := it.best.rmslice (blockStart st) st.chunkEnd, resp := r }

theorem attempt_def (o : Oracle) (st : MinSt) (it : It) :
    attempt o st it =
      match it.try o (it.best.rmslice (blockStart st) st.chunkEnd) (minAtt st it) with
      | (.accepted, it') => ({ st with removed := true, chunkEnd := blockStart st }, it')
      | (_, it') => ({ st with chunkEnd := st.chunkEnd - stepBack st }, it') := rfl

theorem attempt_eq (o : Oracle) (st : MinSt) (it : It) :
    (it.tried.contains (it.best.rmslice (blockStart st) st.chunkEnd).content = true ∧
      attempt o st it = ({ st with chunkEnd := st.chunkEnd - stepBack st },
        { it with atts := minAtt st it .skipped :: it.atts })) ∨
    (it.tried.contains (it.best.rmslice (blockStart st) st.chunkEnd).content = false ∧
      o it.nTests (it.best.rmslice (blockStart st) st.chunkEnd).content = true ∧
      attempt o st it = ({ st with removed := true, chunkEnd := blockStart st },
        { it with best := it.best.rmslice (blockStart st) st.chunkEnd,
                  tried := (it.best.rmslice (blockStart st) st.chunkEnd).content :: it.tried,
                  nTests := it.nTests + 1, atts := minAtt st it .accepted :: it.atts })) ∨
    (it.tried.contains (it.best.rmslice (blockStart st) st.chunkEnd).content = false ∧
      o it.nTests (it.best.rmslice (blockStart st) st.chunkEnd).content = false ∧
      attempt o st it = ({ st with chunkEnd := st.chunkEnd - stepBack st },
        { it with tried := (it.best.rmslice (blockStart st) st.chunkEnd).content :: it.tried,
                  nTests := it.nTests + 1, atts := minAtt st it .rejected :: it.atts })) := by
  rw [attempt_def]
  rcases try_eq it o (it.best.rmslice (blockStart st) st.chunkEnd) (minAtt st it) with
    ⟨h, e⟩ | ⟨h, hv, e⟩ | ⟨h, hv, e⟩ <;> rw [e]
  · exact Or.inl ⟨h, rfl⟩
  · exact Or.inr (Or.inl ⟨h, hv, rfl⟩)
  · exact Or.inr (Or.inr ⟨h, hv, rfl⟩)

theorem attempt_snd (o : Oracle) (st : MinSt) (it : It) :
    (attempt o st it).2 = (it.try o (it.best.rmslice (blockStart st) st.chunkEnd) (minAtt st it)).2 := by
  rw [attempt_def]
  split <;> simp_all

theorem blockStart_bounds (st : MinSt) :
    0 ≤ blockStart st ∧ (0 ≤ st.chunkEnd → blockStart st ≤ st.chunkEnd) ∧
    (1 ≤ st.chunkSize → 1 ≤ st.chunkEnd → blockStart st < st.chunkEnd) := by
  unfold blockStart
  omega

theorem AInv.block {n0 : Nat} {st : MinSt} {it : It} (ha : AInv n0 st it) :
    0 ≤ blockStart st ∧ blockStart st < st.chunkEnd ∧ st.chunkEnd ≤ (it.best.len : Int) :=
  ⟨(blockStart_bounds st).1, (blockStart_bounds st).2.2 ha.cs ha.ce1, ha.ce⟩

/-- the block in the natural numbers that `minAtt` logs as `lo` and `hi` -/
theorem minAtt_shape {n0 : Nat} {st : MinSt} {it : It} (ha : AInv n0 st it) :
    it.best.rmslice (blockStart st) st.chunkEnd
      = it.best.rmslice ((blockStart st).toNat : Int) (st.chunkEnd.toNat : Int) ∧
    (blockStart st).toNat < st.chunkEnd.toNat ∧ st.chunkEnd.toNat ≤ it.best.len ∧
    (st.chunkEnd.toNat - (blockStart st).toNat = st.chunkSize ∨
      ((blockStart st).toNat = 0 ∧ st.chunkEnd.toNat = it.best.len ∧ it.best.len < st.chunkSize)) := by
  obtain ⟨hs0, hse, hce⟩ := ha.block
  have hce0 : 0 < st.chunkEnd := Int.lt_of_le_of_lt hs0 hse
  refine ⟨?_, (Int.toNat_lt_toNat hce0).2 hse, Int.toNat_le.2 hce, ?_⟩
  · rw [Int.toNat_of_nonneg hs0, Int.toNat_of_nonneg (Int.le_of_lt hce0)]
  · by_cases hneg : st.chunkEnd - (st.chunkSize : Int) < 0
    · -- by `edge` the block is `[0, len)`
      have e : blockStart st = 0 := Int.max_eq_left (Int.le_of_lt hneg)
      have := ha.edge hneg
      exact Or.inr ⟨by rw [e]; rfl, by omega, by omega⟩
    · have e : blockStart st = st.chunkEnd - st.chunkSize := Int.max_eq_right (Int.not_lt.1 hneg)
      obtain ⟨e', he⟩ := Int.eq_ofNat_of_zero_le (Int.le_of_lt hce0)
      rw [e, he, Int.toNat_natCast, Int.toNat_sub, Nat.sub_sub_self (by omega)]
      exact Or.inl rfl

theorem roundDecision_some {cfg : Cfg} {st st' : MinSt} {n : Nat} (h : roundDecision cfg st n = some st') :
    ∃ cs', st' = { st with chunkSize := cs', chunkEnd := n, removed := false } ∧
      ((cs' = st.chunkSize ∧ st.removed = true ∧ cfg.rep ≠ .never ∧
          (cfg.rep = .last → st.chunkSize ≤ st.minChunk)) ∨
       (cs' = halveBelow st.chunkSize st.chunkSize n ∧ st.minChunk < st.chunkSize)) := by
  unfold roundDecision at h
  split at h
  · split at h
    · rename_i hle hr
      simp only [Bool.and_eq_true, Bool.or_eq_true, beq_iff_eq] at hr
      exact ⟨_, (Option.some.inj h).symm, Or.inl ⟨rfl, hr.1, by rcases hr.2 with e | e <;> simp [e], fun _ => hle⟩⟩
    · exact absurd h (by simp)
  · split at h
    · rename_i hr
      simp only [Bool.and_eq_true, beq_iff_eq, decide_eq_true_eq] at hr
      exact ⟨_, (Option.some.inj h).symm, Or.inl ⟨rfl, hr.1.1, by simp [hr.1.2], by simp [hr.1.2]⟩⟩
    · exact ⟨_, (Option.some.inj h).symm, Or.inr ⟨rfl, by omega⟩⟩

/-- the `break` -/
theorem roundDecision_none {cfg : Cfg} {st : MinSt} {n : Nat} (h : roundDecision cfg st n = none) :
    st.chunkSize ≤ st.minChunk ∧ (st.removed = false ∨ cfg.rep = .never) := by
  unfold roundDecision at h
  split at h
  · rename_i hle
    split at h
    · exact absurd h (by simp)
    · rename_i hr
      refine ⟨hle, ?_⟩
      cases hrm : st.removed
      · exact Or.inl rfl
      · cases hrep : cfg.rep <;> simp [hrm, hrep] at hr ⊢
  · split at h <;> exact absurd h (by simp)

theorem roundPhase_inr {cfg : Cfg} {clk : Clock} {stopAt : Option Nat} {post : It → It} {st st' : MinSt}
    {it it' : It} (h : roundPhase cfg clk stopAt post st it = .inr (st', it')) :
    deadlinePassed stopAt clk it = false ∧
    ((0 ≤ st.chunkEnd - st.chunkSize ∧ st' = st ∧ it' = it) ∨
     (st.chunkEnd - st.chunkSize < 0 ∧ it.best.len ≠ 0 ∧ it' = post it ∧
        roundDecision cfg st (post it).best.len = some st')) := by
  unfold roundPhase at h
  split at h
  · exact absurd h (by simp)
  · rename_i hd
    refine ⟨by simpa using hd, ?_⟩
    simp only [decide_eq_true_eq] at h
    split at h
    · rename_i hre
      split at h
      · exact absurd h (by simp)
      · rename_i h0
        split at h
        · exact absurd h (by simp)
        · rename_i st1 hrd
          simp only [Sum.inr.injEq, Prod.mk.injEq] at h
          exact Or.inr ⟨hre, by simpa using h0, h.2.symm, h.1 ▸ hrd⟩
    · rename_i hre
      simp only [Sum.inr.injEq, Prod.mk.injEq] at h
      exact Or.inl ⟨by omega, h.1.symm, h.2.symm⟩

theorem roundPhase_inl {cfg : Cfg} {clk : Clock} {stopAt : Option Nat} {post : It → It} {st : MinSt}
    {it it' : It} (h : roundPhase cfg clk stopAt post st it = .inl it') :
    (deadlinePassed stopAt clk it = true ∧ it' = { it with deadlineStop := true }) ∨
    (st.chunkEnd - st.chunkSize < 0 ∧
      ((it.best.len = 0 ∧ it' = it) ∨
       (it.best.len ≠ 0 ∧ it' = post it ∧ roundDecision cfg st (post it).best.len = none))) := by
  unfold roundPhase at h
  split at h
  · rename_i hd
    exact Or.inl ⟨hd, (Sum.inl.inj h).symm⟩
  · rename_i hd
    simp only [decide_eq_true_eq] at h
    split at h
    · rename_i hre
      refine Or.inr ⟨hre, ?_⟩
      split at h
      · rename_i h0
        exact Or.inl ⟨by simpa using h0, (Sum.inl.inj h).symm⟩
      · rename_i h0
        split at h
        · rename_i hrd
          exact Or.inr ⟨by simpa using h0, (Sum.inl.inj h).symm, hrd⟩
        · exact absurd h (by simp)
    · exact absurd h (by simp)

theorem minInit_chunkSize (cfg : Cfg) (t : Testcase) :
    (minInit cfg t).chunkSize = min cfg.max (Util.lp2 t.len) := rfl

theorem minInit_minChunk (cfg : Cfg) (t : Testcase) :
    (minInit cfg t).minChunk = min (min cfg.max (Util.lp2 t.len)) (max cfg.min 1) := rfl

theorem minInit_chunkEnd (cfg : Cfg) (t : Testcase) : (minInit cfg t).chunkEnd = (t.len : Int) := rfl

theorem minInit_removed (cfg : Cfg) (t : Testcase) : (minInit cfg t).removed = cfg.repeatFirst := rfl

theorem minInit_inv (cfg : Cfg) (t : Testcase) (h : t.WF) (hmax : 1 ≤ cfg.max) :
    MInv t.len (minInit cfg t) { best := t } := by
  have hp := Util.lp2_pos t.len
  refine ⟨h, ?_, ?_, Int.le_refl _, Nat.le_refl _⟩
  · rw [minInit_chunkSize]
    omega
  · rw [minInit_minChunk]
    omega

end Strat
