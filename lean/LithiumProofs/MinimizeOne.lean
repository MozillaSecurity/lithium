/-
1-minimality of the result of minimize under a deterministic test (C03).
-/
import LithiumProofs.Minimize
import LithiumProofs.Deletion

namespace Strat
open Testcase

/-- single-atom deletion number `i` -/
def rm1 (t : Testcase) (i : Nat) : Testcase := t.rmslice (i : Int) ((i : Int) + 1)

/-- At the `break` (chunk size 1, nothing removed in the round, `chunkEnd < 1`) `last` covers every atom:
that is 1-minimality.  `tried` and `nonempty` make a de-duplicated candidate a rejected one. -/
structure OneInv (f : Bytes → Bool) (st : MinSt) (it : It) : Prop where
  tried : ∀ c ∈ it.tried, f c = true → it.best.content.length ≤ c.length
  nonempty : ∀ p ∈ it.best.parts, p ≠ []
  mc : st.minChunk = 1
  -- the single-atom deletions at `≥ chunkEnd` were all rejected
  last : st.chunkSize = 1 → st.removed = false →
    ∀ i : Nat, st.chunkEnd ≤ (i : Int) → i < it.best.len → f (rm1 it.best i).content = false

theorem cand_one (t : Testcase) {st : MinSt} {i : Nat} (hcs : st.chunkSize = 1) (hi : (i : Int) = st.chunkEnd - 1) :
    t.rmslice (blockStart st) st.chunkEnd = rm1 t i := by
  unfold rm1 blockStart
  congr 1 <;> omega

theorem oneInv_init (cfg : Cfg) (f : Bytes → Bool) (t : Testcase) (hne : ∀ p ∈ t.parts, p ≠ [])
    (hmin : cfg.min = 1) (hmax : 1 ≤ cfg.max) : OneInv f (minInit cfg t) { best := t } := by
  refine ⟨by simp, hne, ?_, fun _ _ i hi hlt => ?_⟩
  · rw [minInit_minChunk]
    have := Util.lp2_pos t.len
    omega
  · have : (t.len : Int) ≤ i := hi
    have : i < t.len := hlt
    omega

theorem oneInv_round {cfg : Cfg} {clk : Clock} {stopAt : Option Nat} {f : Bytes → Bool} {st st' : MinSt} {it : It}
    (h : OneInv f st it) (hr : roundPhase cfg clk stopAt id st it = .inr (st', it)) : OneInv f st' it := by
  obtain ⟨-, ⟨-, rfl, -⟩ | ⟨-, -, -, hrd⟩⟩ := roundPhase_inr hr
  · exact h
  · -- a round starts at `chunkEnd = len`: `last` says nothing
    obtain ⟨cs', rfl, -⟩ := roundDecision_some hrd
    exact ⟨h.tried, h.nonempty, h.mc, fun _ _ i hi hlt => by simp only [id] at hi; omega⟩

/-- it was tried before and is shorter than the best testcase -/
theorem dedup_rejects {f : Bytes → Bool} {n0 : Nat} {st : MinSt} {it : It} (ha : AInv n0 st it)
    (h : OneInv f st it)
    (hin : it.tried.contains (it.best.rmslice (blockStart st) st.chunkEnd).content = true) :
    f (it.best.rmslice (blockStart st) st.chunkEnd).content = false := by
  obtain ⟨hs0, hse, hce⟩ := ha.block
  exact tried_rejects h.tried (by simpa using hin) (rmslice_shorter ha.wf h.nonempty hs0 hse hce).1

theorem oneInv_attempt {f : Bytes → Bool} {n0 : Nat} {st : MinSt} {it : It} (ha : AInv n0 st it)
    (h : OneInv f st it) :
    OneInv f (attempt (fun _ c => f c) st it).1 (attempt (fun _ c => f c) st it).2 := by
  obtain ⟨hs0, hse, hce⟩ := ha.block
  obtain ⟨hshort, hne'⟩ := rmslice_shorter ha.wf h.nonempty hs0 hse hce
  -- a rejected candidate extends the range of `last` by one atom
  have hkeep : f (it.best.rmslice (blockStart st) st.chunkEnd).content = false →
      st.chunkSize = 1 → st.removed = false →
      ∀ i : Nat, st.chunkEnd - stepBack st ≤ (i : Int) → i < it.best.len → f (rm1 it.best i).content = false := by
    intro hfalse h1 hrm i hi hlt
    unfold stepBack at hi
    rw [if_pos (by omega)] at hi
    by_cases hieq : (i : Int) = st.chunkEnd - 1
    · rwa [cand_one it.best h1 hieq] at hfalse
    · exact h.last h1 hrm i (by omega) hlt
  have htried := tried_try h.tried (it.best.rmslice (blockStart st) st.chunkEnd) (minAtt st it) hshort
  rw [← attempt_snd] at htried
  rcases attempt_eq (fun _ c => f c) st it with ⟨hin, e⟩ | ⟨-, hv, e⟩ | ⟨-, hv, e⟩ <;> rw [e] at htried ⊢
  · exact ⟨htried, h.nonempty, h.mc, hkeep (dedup_rejects ha h hin)⟩
  · exact ⟨htried, hne', h.mc, fun _ hrm => absurd hrm (by simp)⟩
  · exact ⟨htried, h.nonempty, h.mc, hkeep hv⟩

/-- for the follow-up clause of C03 -/
theorem attempt_keeps_best (f : Bytes → Bool) (st : MinSt) (it : It) (hcs : st.chunkSize = 1)
    (hce1 : 1 ≤ st.chunkEnd)
    (hrej : f (rm1 it.best (st.chunkEnd.toNat - 1)).content = false) :
    (attempt (fun _ c => f c) st it).2.best = it.best := by
  have hcand := cand_one it.best (i := st.chunkEnd.toNat - 1) hcs (by omega)
  rcases attempt_eq (fun _ c => f c) st it with ⟨-, e⟩ | ⟨-, hv, e⟩ | ⟨-, -, e⟩
  · rw [e]
  · exact absurd hv (by simp [hcand, hrej])
  · rw [e]

end Strat
