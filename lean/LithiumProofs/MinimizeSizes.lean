/-
The chunk sizes of minimize (C14: powers of two that never grow; the `--min` clause) and what
start-up accepts (`processArgs`).
-/
import LithiumProofs.Minimize
import LithiumProofs.Rmslice
import LithiumModel.Args

namespace Strat
open Testcase

/-- `ge` is what keeps the log sorted -/
structure SzInv (cs0 : Nat) (st : MinSt) (it : It) : Prop where
  pow2 : ∃ k, st.chunkSize = 2 ^ k
  le : st.chunkSize ≤ cs0
  ge : ∀ a ∈ it.atts, st.chunkSize ≤ a.size
  sorted : it.atts.Pairwise (fun newer older => newer.size ≤ older.size)

theorem round_chunk {cfg : Cfg} {clk : Clock} {stopAt : Option Nat} {post : It → It} {st st' : MinSt} {it it' : It}
    (hr : roundPhase cfg clk stopAt post st it = .inr (st', it')) (hp : ∃ k, st.chunkSize = 2 ^ k) :
    (∃ k, st'.chunkSize = 2 ^ k) ∧ st'.chunkSize ≤ st.chunkSize := by
  obtain ⟨-, ⟨-, rfl, -⟩ | ⟨-, -, -, hrd⟩⟩ := roundPhase_inr hr
  · exact ⟨hp, Nat.le_refl _⟩
  · obtain ⟨cs', rfl, ⟨rfl, -⟩ | ⟨rfl, -⟩⟩ := roundDecision_some hrd
    · exact ⟨hp, Nat.le_refl _⟩
    · obtain ⟨k, hk⟩ := hp
      simp only [hk]
      cases k with
      | zero => exact ⟨⟨0, halveBelow_one _ _⟩, by rw [halveBelow_one]; exact Nat.le_refl _⟩
      | succ k =>
        rw [halveBelow_self_two_pow]
        obtain ⟨j, hj, e, -⟩ := min_two_pow_lp2 k (post it).best.len
        rw [e]
        exact ⟨⟨j, rfl⟩, Nat.pow_le_pow_right (by omega) (Nat.le_succ_of_le hj)⟩

theorem szInv_round {cfg : Cfg} {clk : Clock} {stopAt : Option Nat} {cs0 : Nat} {st st' : MinSt} {it : It}
    (h : SzInv cs0 st it) (hr : roundPhase cfg clk stopAt id st it = .inr (st', it)) : SzInv cs0 st' it :=
  have key := round_chunk hr h.pow2
  ⟨key.1, Nat.le_trans key.2 h.le, fun a ha => Nat.le_trans key.2 (h.ge a ha), h.sorted⟩

theorem szInv_attempt {o : Oracle} {cs0 : Nat} {st : MinSt} {it : It} (h : SzInv cs0 st it) :
    SzInv cs0 (attempt o st it).1 (attempt o st it).2 := by
  have hge : ∀ r, ∀ a ∈ minAtt st it r :: it.atts, st.chunkSize ≤ a.size :=
    fun r => List.forall_mem_cons.2 ⟨Nat.le_refl _, h.ge⟩
  rcases attempt_eq o st it with ⟨-, e⟩ | ⟨-, -, e⟩ | ⟨-, -, e⟩ <;> rw [e] <;>
    exact ⟨h.pow2, h.le, hge _, List.pairwise_cons.2 ⟨h.ge, h.sorted⟩⟩

theorem szInv_init (cfg : Cfg) (t : Testcase) (hmax : ∃ k, cfg.max = 2 ^ k) :
    SzInv (min cfg.max (Util.lp2 t.len)) (minInit cfg t) { best := t } := by
  obtain ⟨k, hk⟩ := hmax
  obtain ⟨j, -, e, -⟩ := min_two_pow_lp2 k t.len
  exact ⟨⟨j, by rw [minInit_chunkSize, hk, e]⟩, Nat.le_refl _, by simp, List.Pairwise.nil⟩

/-! ### the `--min` clause: the chunk size falls below `--min` only once at most `--min` atoms remain -/

def MinOK (M : Nat) (cs len : Nat) : Prop := M ≤ cs ∨ len ≤ M

structure FloorInv (M : Nat) (st : MinSt) (it : It) : Prop where
  chunk : MinOK M st.chunkSize it.best.len
  minChunk : MinOK M st.minChunk it.best.len

theorem floorInv_round {cfg : Cfg} {clk : Clock} {stopAt : Option Nat} {j : Nat} {st st' : MinSt} {it : It}
    (h : FloorInv (2 ^ j) st it) (hp : ∃ k, st.chunkSize = 2 ^ k)
    (hr : roundPhase cfg clk stopAt id st it = .inr (st', it)) : FloorInv (2 ^ j) st' it := by
  obtain ⟨-, ⟨-, rfl, -⟩ | ⟨-, -, -, hrd⟩⟩ := roundPhase_inr hr
  · exact h
  · obtain ⟨cs', rfl, ⟨rfl, -⟩ | ⟨rfl, hlt⟩⟩ := roundDecision_some hrd
    · exact ⟨h.chunk, h.minChunk⟩
    · refine ⟨?_, h.minChunk⟩
      obtain ⟨k, hk⟩ := hp
      rcases h.minChunk with hm | hm
      · -- 2^j ≤ minChunk < chunkSize = 2^k, so j < k
        have hlt' : 2 ^ j < 2 ^ k := by rw [← hk]; omega
        have hjk : j < k := (Nat.pow_lt_pow_iff_right (by omega)).mp hlt'
        obtain ⟨k, rfl⟩ : ∃ k', k = k' + 1 := ⟨k - 1, by omega⟩
        simp only [hk, id]
        rw [halveBelow_self_two_pow]
        -- `2^j` is skipped only because at most `2^j` atoms remain
        rcases Nat.lt_or_ge (Util.lp2 it.best.len) (2 ^ j) with h1 | h1
        · exact Or.inr (Util.le_of_lp2_lt_pow _ j h1)
        · exact Or.inl (Nat.le_min.2 ⟨Nat.pow_le_pow_right (by omega) (Nat.le_of_lt_succ hjk), h1⟩)
      · exact Or.inr hm

theorem floorInv_attempt {o : Oracle} {M n0 : Nat} {st : MinSt} {it : It} (ha : AInv n0 st it)
    (h : FloorInv M st it) : FloorInv M (attempt o st it).1 (attempt o st it).2 := by
  have hlen : (attempt o st it).2.best.len ≤ it.best.len := by
    rw [attempt_snd]
    exact try_best (fun b => b.len ≤ it.best.len) it o _ _ (Nat.le_refl _)
      (rmslice_len_le ha.wf ha.block.1 (Int.le_of_lt ha.block.2.1))
  rcases attempt_eq o st it with ⟨-, e⟩ | ⟨-, -, e⟩ | ⟨-, -, e⟩ <;> rw [e] at hlen ⊢ <;>
    exact ⟨Or.imp_right (Nat.le_trans hlen) h.chunk, Or.imp_right (Nat.le_trans hlen) h.minChunk⟩

theorem processArgs_cases (a : Args) :
    (¬ (∃ j : Nat, (effective a).1 = (2 : Int) ^ j) ∧ processArgs a = .error .minNotPow2) ∨
    ((∃ j : Nat, (effective a).1 = (2 : Int) ^ j) ∧ ¬ (∃ j : Nat, (effective a).2.1 = (2 : Int) ^ j) ∧
      processArgs a = .error .maxNotPow2) ∨
    ((∃ j : Nat, (effective a).1 = (2 : Int) ^ j) ∧ (∃ j : Nat, (effective a).2.1 = (2 : Int) ^ j) ∧
      processArgs a = .ok { min := (effective a).1.toNat, max := (effective a).2.1.toNat, rep := (effective a).2.2,
                            repeatFirst := a.repeatFirst, stopAfter := a.maxRunTime.map Int.toNat }) := by
  unfold processArgs
  simp only [← Util.isPowerOfTwo_iff]
  cases h1 : Util.isPowerOfTwo (effective a).1
  · exact Or.inl ⟨by simp, by simp⟩
  · cases h2 : Util.isPowerOfTwo (effective a).2.1
    · exact Or.inr (Or.inl ⟨rfl, by simp, by simp⟩)
    · exact Or.inr (Or.inr ⟨rfl, rfl, by simp⟩)

end Strat
