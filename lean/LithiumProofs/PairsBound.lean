/-
Termination and test bound of minimize-around / minimize-balanced: a pass never runs out of fuel,
never fails its `assert`, runs at most `num_chunks ≤ len` tests, and every accepted proposal
shortens the testcase; so the outer loop makes at most `n + log2 cs0 + 1` passes.
-/
import LithiumProofs.Summary
import LithiumProofs.PairsCand

namespace Strat
open Testcase

/-- `n0`: the atoms when the pass began; fewer are left if `any`, the pass's flag "a proposal was
accepted" -/
def Shrinks (n0 : Nat) (it : It) (any : Bool) : Prop :=
  it.best.WF ∧ it.best.len + (if any then 1 else 0) ≤ n0

theorem pLoop_shrinks {σ : Type} {pd : PassDef σ} (hpd : pd.Proposes Cut) (o : Oracle) (clk : Clock)
    (stopAt : Option Nat) (n0 fuel : Nat) (st : σ) (it : It) (any : Bool) (h : Shrinks n0 it any) :
    Shrinks n0 (pLoop pd o clk stopAt fuel st it any).1 (pLoop pd o clk stopAt fuel st it any).2 :=
  pLoop_induct_exits pd o clk stopAt (fun _ it any => Shrinks n0 it any) (fun it any => Shrinks n0 it any)
    (fun _ _ _ h _ => h) (fun _ _ _ h _ _ => h) (fun _ _ _ h => h) (fun _ _ _ h _ _ => h)
    (fun _ _ _ h _ _ _ => ⟨fun _ => h, fun _ _ => h⟩)
    (fun st it any c mk h hg _ ha => by
      obtain ⟨hc, -⟩ := hpd st it c mk hg ha
      have key : Shrinks n0 (it.try o c mk).2 (any || ((it.try o c mk).1 == .accepted)) := by
        rcases try_eq it o c mk with ⟨-, e⟩ | ⟨-, -, e⟩ | ⟨-, -, e⟩ <;> rw [e]
        · rw [show (Resp.skipped == Resp.accepted) = false from rfl, Bool.or_false]
          exact h
        · have hlt := hc.fewer h.1
          have hle : it.best.len ≤ n0 := Nat.le_trans (Nat.le_add_right _ _) h.2
          exact ⟨hc.chain.closed wf_closed h.1, by simp only [beq_self_eq_true, Bool.or_true, if_true]; omega⟩
        · rw [show (Resp.rejected == Resp.accepted) = false from rfl, Bool.or_false]
          exact h
      exact ⟨fun _ => key, fun _ _ => key⟩)
    fuel st it any h

/-- `after` is the first surviving chunk behind `keep`.  Nothing is said of `before`: it enters only
`setDead` and `Att.lo`, never the candidate. -/
structure AroundInv (nc : Nat) (st : AroundSt) : Prop where
  len : st.summary.length = nc
  ka : st.keep < st.after
  an : st.after < nc
  gap : ∀ j, st.keep < j → j < st.after → alive st.summary j = false

theorem AroundInv.of_indexS {nc : Nat} {st : AroundSt} (hl : st.summary.length = nc)
    (h : indexS st.summary (st.keep + 1) = some st.after) : AroundInv nc st :=
  have ⟨s1, s2, _, s4⟩ := indexS_spec _ _ _ h
  ⟨hl, s1, hl ▸ s2, fun j h1 h2 => s4 j h1 h2⟩

theorem dist_end_lt {n a b : Nat} (hab : a < b) (hb : b < n) : n - 1 - b < n - 1 - a := by
  omega

theorem aroundNext_inv (cs nc : Nat) (st st' : AroundSt) (r : Option Resp) (h : AroundInv nc st)
    (hn : aroundNext cs st r = some st') : AroundInv nc st' ∧ nc - 1 - st'.after < nc - 1 - st.after := by
  by_cases hr : r = some .accepted
  · subst hr
    obtain ⟨hs, hidx, hk⟩ := aroundNext_accepted hn
    have hlen : st'.summary.length = nc := by
      rw [hs, setDead_length, setDead_length]; exact h.len
    -- everything in (keep, after] is dead now, so the next survivor lies behind `after`
    have hdead : ∀ j, st.keep < j → j ≤ st.after → alive st'.summary j = false := by
      intro j h1 h2
      rw [hs, alive_setDead, alive_setDead]
      rcases Nat.eq_or_lt_of_le h2 with he | hlt
      · simp [he]
      · simp [h.gap j h1 hlt]
    have hbeyond : ∀ x, indexS st'.summary (st.keep + 1) = some x → st.after < x := by
      intro x hx
      obtain ⟨x1, -, x3, -⟩ := indexS_spec _ _ _ hx
      rcases Nat.lt_or_ge st.after x with hlt | hge
      · exact hlt
      · rw [hdead x (by omega) hge] at x3; simp at x3
    obtain ⟨s1, s2, -⟩ := indexS_spec _ _ _ hidx
    refine ⟨.of_indexS hlen hidx, ?_⟩
    rcases hk with hk | hk
    · exact dist_end_lt (hbeyond st'.after (hk ▸ hidx)) (hlen ▸ s2)
    · exact dist_end_lt (Nat.lt_trans (hbeyond st'.keep hk) s1) (hlen ▸ s2)
  · rw [aroundNext_quiet cs st hr, Option.map_eq_some_iff] at hn
    obtain ⟨a, ha, rfl⟩ := hn
    obtain ⟨s1, s2, -⟩ := indexS_spec _ _ _ ha
    exact ⟨.of_indexS h.len ha, dist_end_lt s1 (h.len ▸ s2)⟩

structure PassOK (it : It) (r : It × Bool) : Prop where
  fuel : r.1.outOfFuel = it.outOfFuel
  err : r.1.internalError = it.internalError
  tests : r.1.nTests ≤ it.nTests + it.best.len
  shrinks : Shrinks it.best.len r.1 r.2

theorem pLoop_ok {σ : Type} {pd : PassDef σ} (hpd : pd.Proposes Cut) (o : Oracle) (clk : Clock) (stopAt : Option Nat)
    (I : σ → Prop) (mu : σ → Nat)
    (hnext : ∀ st it r st', I st → pd.next st it r = some st' → I st' ∧ mu st' < mu st)
    (hnofail : ∀ st it, I st → pd.guard st it = true → pd.act st it ≠ .fail)
    (fuel : Nat) (st : σ) (it : It) (hw : it.best.WF) (hI : I st) (hfuel : mu st < fuel) (hmu : mu st + 1 ≤ it.best.len) :
    PassOK it (pLoop pd o clk stopAt fuel st it false) :=
  have ⟨b1, b2, _, b4⟩ := pLoop_bound pd o clk stopAt I mu hnext hnofail fuel st it false hI hfuel
  ⟨b1, b2, by omega, pLoop_shrinks hpd o clk stopAt _ _ _ it false ⟨hw, by simp⟩⟩

theorem aroundPass_ok (o : Oracle) (clk : Clock) (stopAt : Option Nat) (cs : Nat) (it : It)
    (h : it.best.WF) (hcs : 1 ≤ cs) : PassOK it (aroundPass o clk stopAt cs it) := by
  unfold aroundPass
  simp only
  split
  · exact ⟨rfl, rfl, Nat.le_add_right _ _, ⟨h, by simp⟩⟩
  · have hdl := Util.divUp_le it.best.len cs hcs
    exact pLoop_ok (aroundDef_proposes cs _ hcs) o clk stopAt (AroundInv (Util.divUp it.best.len cs))
      (fun st => Util.divUp it.best.len cs - 1 - st.after) (fun st _ r st' => aroundNext_inv cs _ st st' r)
      (fun st it' _ _ => by simp [aroundDef]) _ _ it h
      ⟨by simp, by simp, by simp only; omega, fun j h1 h2 => by simp only at h1 h2; omega⟩
      (by simp only; omega) (by simp only; omega)

/-- `start` is the `assert` of strategies.py:813, so the pass never fails it (`balAct_fail`) -/
structure BalInv (cs nc : Nat) (st : BalSt) : Prop where
  len : st.summary.length = nc
  ln : st.lhs < nc
  live : alive st.summary st.lhs = true
  start : countS st.summary 0 st.lhs * cs = st.chunkStart

/-- however `lhs` moves on: to the next survivor of a summary that is the old one below `lhs`; the
chunk `lhs` counts if it is still there -/
theorem balInv_next {cs nc : Nat} {st st' : BalSt} (h : BalInv cs nc st) (hlen : st'.summary.length = nc)
    (hlow : ∀ j, j < st.lhs → alive st'.summary j = alive st.summary j)
    (hl : indexS st'.summary (st.lhs + 1) = some st'.lhs)
    (hc : st'.chunkStart = st.chunkStart + if alive st'.summary st.lhs = true then cs else 0) :
    BalInv cs nc st' ∧ nc - 1 - st'.lhs < nc - 1 - st.lhs := by
  obtain ⟨s1, s2, s3, -⟩ := indexS_spec _ _ _ hl
  refine ⟨⟨hlen, hlen ▸ s2, s3, ?_⟩, dist_end_lt s1 (hlen ▸ s2)⟩
  rw [countS_indexS hl (Nat.zero_le _), countS_succ _ (Nat.zero_le _),
    countS_congr (fun j _ h3 => hlow j h3), hc, ← h.start]
  split <;> simp [Nat.add_mul]

theorem balNext_inv (cs nc : Nat) (curly square normal : List Int) (st st' : BalSt) (r : Option Resp)
    (h : BalInv cs nc st) (hn : balNext cs curly square normal st r = some st') :
    BalInv cs nc st' ∧ nc - 1 - st'.lhs < nc - 1 - st.lhs := by
  by_cases hr : r = some .accepted
  · subst hr
    obtain ⟨hs, hc, hl⟩ := balNext_accepted hn
    have hge := balRhs_ge curly square normal st
    -- either new summary has the old length, agrees with the old one below `lhs` and is dead at `lhs`
    refine balInv_next h ?_ (fun j hj => ?_) hl ?_
    · rw [hs]
      split <;> simp [setDead_length, h.len]
    · rw [hs]
      split
      · rw [alive_setDead, if_neg (by omega)]
      · rw [alive_setDead, alive_setDead, if_neg (by omega), if_neg (by omega)]
    · rw [hc, show alive st'.summary st.lhs = false by rw [hs]; split <;> simp [alive_setDead]]
      rfl
  · rw [balNext_quiet _ _ _ _ _ hr, balShift] at hn
    split at hn
    · rename_i l hl
      cases hn
      exact balInv_next h h.len (fun _ _ => rfl) hl (by simp [h.live])
    · cases hn

theorem balPass_ok (o : Oracle) (clk : Clock) (stopAt : Option Nat) (cs : Nat) (it : It)
    (h : it.best.WF) (hcs : 1 ≤ cs) : PassOK it (balPass o clk stopAt cs it) := by
  unfold balPass
  simp only
  split
  · exact ⟨rfl, rfl, Nat.le_add_right _ _, ⟨h, by simp⟩⟩
  · have hdl := Util.divUp_le it.best.len cs hcs
    unfold balLoop
    have hinv : BalInv cs (Util.divUp it.best.len cs)
        { summary := List.replicate (Util.divUp it.best.len cs) true, chunkStart := 0, lhs := 0 } := by
      refine ⟨by simp, by simp only; omega, ?_, ?_⟩
      · show alive (List.replicate (Util.divUp it.best.len cs) true) 0 = true
        rw [alive_replicate]
        exact decide_eq_true (by omega)
      · simp [countS_self]
    exact pLoop_ok (balDef_proposes cs _ _ _ _ hcs) o clk stopAt (BalInv cs (Util.divUp it.best.len cs))
      (fun st => Util.divUp it.best.len cs - 1 - st.lhs) (fun st _ r st' => balNext_inv cs _ _ _ _ st st' r)
      (fun st it' hI _ hf => balAct_fail.mp hf hI.start) _ _ it h hinv (by simp only; omega) (by simp only; omega)

/-- by induction on the fuel itself: `pairsOuter_induct` hides it -/
theorem pairsOuter_bound (cfg : Cfg) (clk : Clock) (stopAt : Option Nat) (pass : Nat → It → It × Bool)
    (final n0 : Nat) (hfinal : 1 ≤ final)
    (hpass : ∀ cs it, it.best.WF → 1 ≤ cs → PassOK it (pass cs it)) :
    ∀ (fuel cs : Nat) (it : It), it.best.WF → 1 ≤ cs → it.best.len ≤ n0 →
      it.outOfFuel = false → it.internalError = false → it.best.len + Nat.log2 cs < fuel →
      (pairsOuter cfg clk stopAt pass final fuel cs it).outOfFuel = false ∧
      (pairsOuter cfg clk stopAt pass final fuel cs it).internalError = false ∧
      (pairsOuter cfg clk stopAt pass final fuel cs it).nTests
        ≤ it.nTests + (it.best.len + Nat.log2 cs + 1) * n0 := by
  intro fuel
  induction fuel with
  | zero => intro cs it _ _ _ _ _ h; omega
  | succ f ih =>
    intro cs it hw hcs hn0 hf he hfuel
    obtain ⟨p1, p2, p3, p4w, p4⟩ := hpass cs it hw hcs
    have hle : (pass cs it).1.best.len ≤ it.best.len := Nat.le_trans (Nat.le_add_right _ _) p4
    have hlt : (pass cs it).2 = true → (pass cs it).1.best.len < it.best.len := by
      intro h
      rw [if_pos h] at p4
      exact p4
    have ht : (pass cs it).1.nTests ≤ it.nTests + n0 := Nat.le_trans p3 (Nat.add_le_add_left hn0 _)
    have hnow : (pass cs it).1.nTests ≤ it.nTests + (it.best.len + Nat.log2 cs + 1) * n0 :=
      Nat.le_trans ht (Nat.add_le_add_left (Nat.le_mul_of_pos_left n0 (Nat.succ_pos _)) _)
    unfold pairsOuter
    simp only
    rw [if_neg (by rw [p1, p2, hf, he]; simp)]
    by_cases hd : deadlinePassed stopAt clk (pass cs it).1 = true
    · rw [if_pos hd]
      exact ⟨p1.trans hf, p2.trans he, hnow⟩
    rw [if_neg hd]
    by_cases hrep : ((pass cs it).2 && (cfg.rep == .always || (cfg.rep == .last && decide (cs ≤ final)))) = true
    · -- repeat at the same chunk size: something was accepted, so the testcase is shorter
      rw [if_pos hrep]
      have := hlt (Bool.and_eq_true_iff.mp hrep).1
      obtain ⟨i1, i2, i3⟩ := ih cs (pass cs it).1 p4w hcs (Nat.le_trans hle hn0) (p1.trans hf) (p2.trans he) (by omega)
      exact ⟨i1, i2, Nat.le_trans i3 (budget_step ht (by omega))⟩
    rw [if_neg hrep]
    by_cases hlast : cs ≤ final
    · rw [if_pos hlast]
      exact ⟨p1.trans hf, p2.trans he, hnow⟩
    · -- halve: `cs > final ≥ 1`, so `log2` drops by one
      rw [if_neg hlast]
      have hcs2 : 2 ≤ cs := Nat.lt_of_le_of_lt hfinal (Nat.lt_of_not_le hlast)
      have hlog := Util.log2_halve cs hcs2
      obtain ⟨i1, i2, i3⟩ := ih (cs / 2) (pass cs it).1 p4w (Nat.div_pos hcs2 (by decide)) (Nat.le_trans hle hn0) (p1.trans hf) (p2.trans he) (by omega)
      exact ⟨i1, i2, Nat.le_trans i3 (budget_step ht (by omega))⟩

theorem pairs_bound (cfg : Cfg) (clk : Clock) (t : Testcase) (h : t.WF) (hmax : 1 ≤ cfg.max)
    (pass : Nat → It → It × Bool)
    (hpass : ∀ cs it, it.best.WF → 1 ≤ cs → PassOK it (pass cs it)) :
    let r := pairsOuter cfg clk (stopAt cfg clk) pass (max cfg.min 1) (pairsFuel t)
      (min cfg.max (Util.lp2 t.len)) { best := t }
    r.outOfFuel = false ∧ r.internalError = false ∧
    r.nTests ≤ (t.len + 1) * (t.len + clog2 t.len + 2) := by
  have hcs : 1 ≤ min cfg.max (Util.lp2 t.len) := by
    have := Util.lp2_pos t.len
    omega
  -- `log2` of the first chunk size: `hl1` for the fuel, `hl2` for the bound
  have hl1 := log2_start_le cfg.max t.len
  have hl2 := log2_start_le_clog2 cfg.max t.len
  obtain ⟨b1, b2, b3⟩ := pairsOuter_bound cfg clk (stopAt cfg clk) pass (max cfg.min 1) t.len (by omega) hpass
    (pairsFuel t) (min cfg.max (Util.lp2 t.len)) { best := t } h hcs (Nat.le_refl _) rfl rfl
    (by unfold pairsFuel; simp only; omega)
  -- `(len + log2 cs0 + 1) * len` is loosened to the formula C09 states for all strategies
  simp only [Nat.zero_add] at b3
  refine ⟨b1, b2, Nat.le_trans b3 ?_⟩
  rw [Nat.mul_comm (t.len + 1)]
  exact Nat.mul_le_mul (by omega) (Nat.le_succ _)

end Strat
