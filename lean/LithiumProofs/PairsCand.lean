/-
What the passes of minimize-around and minimize-balanced propose: every proposal is a `Cut` of
the current best, logged faithfully, so whatever every such proposal keeps (`Kept`) holds of the
final iterator.  And how the state of a pass moves on after a proposal.
-/
import LithiumProofs.PairsLoop
import LithiumProofs.Deletion
import LithiumProofs.Util

namespace Strat
open Testcase

/-- under the loop guard all clamping but the end of the chunk after goes away; that chunk is cut first -/
theorem aroundCand_eq (cs : Nat) (st : AroundSt) (it : It) (hg : st.chunkStart + cs < it.best.len) :
    aroundCand cs st it =
      (it.best.rmslice ((st.chunkStart + cs : Nat) : Int) ((min it.best.len (st.chunkStart + cs + cs) : Nat) : Int)).rmslice
        ((st.chunkStart - cs : Nat) : Int) (st.chunkStart : Int) := by
  unfold aroundCand
  simp only
  rw [show min it.best.len (st.chunkStart + cs) = st.chunkStart + cs by omega,
    show max (0 : Int) ((st.chunkStart : Int) - cs) = ((st.chunkStart - cs : Nat) : Int) by omega]

theorem aroundCand_cut (cs : Nat) (st : AroundSt) (it : It) (hcs : 1 ≤ cs)
    (hg : st.chunkStart + cs < it.best.len) : Cut it.best (aroundCand cs st it) := by
  rw [aroundCand_eq cs st it hg]
  have a0 : (0 : Int) ≤ ((st.chunkStart + cs : Nat) : Int) := Int.natCast_nonneg _
  have ab : ((st.chunkStart + cs : Nat) : Int) < ((min it.best.len (st.chunkStart + cs + cs) : Nat) : Int) :=
    Int.ofNat_lt.2 (by omega)
  have c0 : (0 : Int) ≤ ((st.chunkStart - cs : Nat) : Int) := Int.natCast_nonneg _
  have cd : ((st.chunkStart - cs : Nat) : Int) ≤ (st.chunkStart : Int) := Int.ofNat_le.2 (Nat.sub_le _ _)
  refine ⟨.rm _ _ (.rm _ _ .refl a0 (Int.le_of_lt ab)) c0 cd, fun h => ?_⟩
  -- the chunk after is not empty
  exact Nat.lt_of_le_of_lt (rmslice_len_le (wf_closed _ _ _ h a0 (Int.le_of_lt ab)) c0 cd)
    (rmslice_len_lt h a0 ab (Int.ofNat_lt.2 hg))

theorem balCand1_cut (cs : Nat) (st : BalSt) (it : It) (hcs : 1 ≤ cs) (hg : st.chunkStart < it.best.len) :
    Cut it.best (balCand1 cs st it) := by
  unfold balCand1
  exact ⟨.rm _ _ .refl (by omega) (by omega), fun h => rmslice_len_lt h (by omega) (by omega) (by omega)⟩

theorem balCand2_cut (cs : Nat) (st : BalSt) (it : It) (rhs : Nat) (hcs : 1 ≤ cs)
    (hg : st.chunkStart < it.best.len) : Cut it.best (balCand2 cs st it rhs) := by
  unfold balCand2
  simp only
  have hr : min it.best.len (st.chunkStart + cs * countS st.summary st.lhs rhs) ≤ it.best.len := Nat.min_le_left _ _
  generalize min it.best.len (st.chunkStart + cs * countS st.summary st.lhs rhs) = r at hr ⊢
  have a0 : (0 : Int) ≤ r := Int.natCast_nonneg r
  have ab : (r : Int) ≤ ((min it.best.len (r + cs) : Nat) : Int) := Int.ofNat_le.2 (by omega)
  have c0 : (0 : Int) ≤ st.chunkStart := Int.natCast_nonneg _
  have cd : (st.chunkStart : Int) < ((min it.best.len (st.chunkStart + cs) : Nat) : Int) := Int.ofNat_lt.2 (by omega)
  refine ⟨.rm _ _ (.rm _ _ .refl a0 ab) c0 (Int.le_of_lt cd), fun h => ?_⟩
  have w1 := wf_closed _ _ _ h a0 ab
  have l1 := rmslice_len_le h a0 ab
  -- the chunk `lhs` is not empty, unless the partner's removal has already shortened the testcase
  rcases Nat.lt_or_ge (it.best.rmslice (r : Int) ((min it.best.len (r + cs) : Nat) : Int)).len it.best.len with hlt | hge
  · exact Nat.lt_of_le_of_lt (rmslice_len_le w1 c0 (Int.le_of_lt cd)) hlt
  · exact Nat.lt_of_lt_of_le (rmslice_len_lt w1 c0 cd (Int.ofNat_lt.2 (Nat.lt_of_lt_of_le hg hge))) l1

theorem balAct_fail {cs nc : Nat} {curly square normal : List Int} {st : BalSt} {it : It} :
    balAct cs nc curly square normal st it = .fail ↔ countS st.summary 0 st.lhs * cs ≠ st.chunkStart := by
  unfold balAct
  simp only
  split
  · simp_all
  · split
    · simp_all
    · split <;> simp_all

theorem balAct_propose {cs nc : Nat} {curly square normal : List Int} {st : BalSt} {it : It}
    {c : Testcase} {mk : Resp → Att} (h : balAct cs nc curly square normal st it = .propose c mk) :
    (balZero (balOf curly square normal st.lhs) = true ∧ c = balCand1 cs st it ∧ mk = balMk1 cs nc st it) ∨
    (balZero (balOf curly square normal st.lhs) = false ∧ balZero (balRhs curly square normal st).2 = true ∧
      c = balCand2 cs st it (balRhs curly square normal st).1 ∧
      mk = balMk2 cs nc st it (balRhs curly square normal st).1) := by
  simp only [balAct] at h
  split at h
  · exact absurd h (by simp)
  · split at h
    · rename_i hz
      simp only [PAct.propose.injEq] at h
      exact .inl ⟨hz, h.1.symm, h.2.symm⟩
    · rename_i hz
      split at h
      · exact absurd h (by simp)
      · rename_i hr
        simp only [PAct.propose.injEq] at h
        exact .inr ⟨by simpa using hz, by simpa using hr, h.1.symm, h.2.symm⟩

theorem balAct_skip {cs nc : Nat} {curly square normal : List Int} {st : BalSt} {it : It}
    (h : balAct cs nc curly square normal st it = .skip) :
    balZero (balOf curly square normal st.lhs) = false ∧ balZero (balRhs curly square normal st).2 = false := by
  simp only [balAct] at h
  split at h
  · exact absurd h (by simp)
  · split at h
    · exact absurd h (by simp)
    · rename_i hz
      split at h
      · rename_i hr
        exact ⟨by simpa using hz, by simpa using hr⟩
      · exact absurd h (by simp)

theorem aroundNext_quiet (cs : Nat) (st : AroundSt) {r : Option Resp} (hr : r ≠ some .accepted) :
    aroundNext cs st r = (indexS st.summary (st.after + 1)).map fun a =>
      { st with chunkStart := st.chunkStart + cs, before := st.keep, keep := st.after, after := a } := by
  unfold aroundNext
  split
  · exact absurd rfl hr
  · cases indexS st.summary (st.after + 1) <;> rfl

/-- third part: `keep` stays while a chunk survives before it, else it moves to the next survivor;
`before` and `chunkStart` are left out, as in `AroundInv` -/
theorem aroundNext_accepted {cs : Nat} {st st' : AroundSt} (hn : aroundNext cs st (some .accepted) = some st') :
    st'.summary = setDead (setDead st.summary st.before) st.after ∧
    indexS st'.summary (st'.keep + 1) = some st'.after ∧
    (st'.keep = st.keep ∨ indexS st'.summary (st.keep + 1) = some st'.keep) := by
  simp only [aroundNext] at hn
  split at hn
  · split at hn
    · rename_i ha
      cases hn
      exact ⟨rfl, ha, .inl rfl⟩
    · cases hn
  · split at hn
    · cases hn
    · rename_i hk
      split at hn
      · rename_i ha
        cases hn
        exact ⟨rfl, ha, .inr hk⟩
      · cases hn

theorem balNext_quiet (cs : Nat) (curly square normal : List Int) (st : BalSt) {r : Option Resp}
    (hr : r ≠ some .accepted) : balNext cs curly square normal st r = balShift cs st := by
  unfold balNext
  split
  · exact absurd rfl hr
  · rfl

theorem balNext_accepted {cs : Nat} {curly square normal : List Int} {st st' : BalSt}
    (hn : balNext cs curly square normal st (some .accepted) = some st') :
    st'.summary = (if balZero (balOf curly square normal st.lhs) = true then setDead st.summary st.lhs
      else setDead (setDead st.summary st.lhs) (balRhs curly square normal st).1) ∧
    st'.chunkStart = st.chunkStart ∧ indexS st'.summary (st.lhs + 1) = some st'.lhs := by
  simp only [balNext] at hn
  split at hn
  · rename_i hl
    cases hn
    exact ⟨rfl, rfl, hl⟩
  · cases hn

theorem le_fst_ite {β : Type} {c : Prop} [Decidable c] {n : Nat} {a b : Nat × β} (ha : n ≤ a.1) (hb : n ≤ b.1) :
    n ≤ (if c then a else b).1 := by
  split <;> assumption

theorem findRhs_ge (summary : List Bool) (curly square normal : List Int) (l : List Bool) (rhs : Nat)
    (bal : Int × Int × Int) : rhs ≤ (findRhs summary curly square normal l rhs bal).1 := by
  induction l generalizing rhs bal with
  | nil => simp [findRhs]
  | cons x xs ih =>
    unfold findRhs
    -- whichever way the three tests go, the result is `rhs + 1` or found from `rhs + 1` on
    exact le_fst_ite (Nat.le_trans (Nat.le_succ _) (ih _ _))
      (le_fst_ite (Nat.le_succ _) (le_fst_ite (Nat.le_succ _) (Nat.le_trans (Nat.le_succ _) (ih _ _))))

theorem balRhs_ge (curly square normal : List Int) (st : BalSt) : st.lhs ≤ (balRhs curly square normal st).1 :=
  findRhs_ge _ _ _ _ _ _ _

theorem aroundDef_proposes (cs nc : Nat) (hcs : 1 ≤ cs) : (aroundDef cs nc).Proposes Cut := by
  intro st it c mk hg ha
  simp only [aroundDef, PAct.propose.injEq] at ha
  obtain ⟨rfl, rfl⟩ := ha
  exact ⟨aroundCand_cut cs st it hcs (by simpa [aroundDef] using hg), fun _ => ⟨rfl, rfl, rfl⟩⟩

theorem balDef_proposes (cs nc : Nat) (curly square normal : List Int) (hcs : 1 ≤ cs) :
    (balDef cs nc curly square normal).Proposes Cut := by
  intro st it c mk hg ha
  have hg' : st.chunkStart < it.best.len := by simpa [balDef] using hg
  rcases balAct_propose ha with ⟨-, rfl, rfl⟩ | ⟨-, -, rfl, rfl⟩
  · exact ⟨balCand1_cut cs st it hcs hg', fun _ => ⟨rfl, rfl, rfl⟩⟩
  · exact ⟨balCand2_cut cs st it _ hcs hg', fun _ => ⟨rfl, rfl, rfl⟩⟩

theorem aroundPass_keeps {o : Oracle} {clk : Clock} {stopAt : Option Nat} {Q : It → Prop}
    (hQ : Kept o clk stopAt Cut Q) (cs : Nat) (it : It) (h : Q it) : Q (aroundPass o clk stopAt cs it).1 := by
  unfold aroundPass
  simp only
  split
  · exact h
  · exact pLoop_keeps (aroundDef_proposes cs _ (Util.pos_of_divUp (n := it.best.len) (by omega))) hQ _ _ _ _ h

theorem balPass_keeps {o : Oracle} {clk : Clock} {stopAt : Option Nat} {Q : It → Prop}
    (hQ : Kept o clk stopAt Cut Q) (cs : Nat) (it : It) (h : Q it) : Q (balPass o clk stopAt cs it).1 := by
  unfold balPass
  simp only
  split
  · exact h
  · exact pLoop_keeps (balDef_proposes cs _ _ _ _ (Util.pos_of_divUp (n := it.best.len) (by omega))) hQ _ _ _ _ h

theorem around_keeps {cfg : Cfg} {o : Oracle} {clk : Clock} {Q : It → Prop}
    (hQ : Kept o clk (stopAt cfg clk) Cut Q) (t : Testcase) (h : Q { best := t }) : Q (around cfg o clk t) :=
  pairsOuter_keeps hQ (aroundPass_keeps hQ) _ _ _ _ h

theorem balanced_keeps {cfg : Cfg} {o : Oracle} {clk : Clock} {Q : It → Prop}
    (hQ : Kept o clk (stopAt cfg clk) Cut Q) (t : Testcase) (h : Q { best := t }) : Q (balanced cfg o clk t) :=
  pairsOuter_keeps hQ (balPass_keeps hQ) _ _ _ _ h

end Strat
