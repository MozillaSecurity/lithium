/-
C13 for the pair strategies under a deterministic test: the global invariant `GInv`, what a pass at
chunk size 1 that accepts nothing has proposed (`Sweep`), the partner search of minimize-balanced,
and `pairs_fixpoint`, which puts them together.
-/
import LithiumProofs.PairsBound

namespace Strat
open Testcase

/-- what a candidate must be for `GInv` to survive its proposal -/
structure CandOK (best c : Testcase) : Prop where
  wf : c.WF
  nonempty : ∀ p ∈ c.parts, p ≠ []
  shorter : c.content.length < best.content.length

theorem Cut.candOK {t c : Testcase} (h : Cut t c) (hwf : t.WF) (hne : ∀ p ∈ t.parts, p ≠ []) : CandOK t c :=
  have d : IsDel t c := h.chain.closed (isDel_closed t) (isDel_refl t hwf)
  have := d.bytes hwf hne
  have := h.fewer hwf
  ⟨d.wf, d.nonempty hwf hne, by omega⟩

/-- `tried`: the best testcase is a shortest accepted content among those tried -/
structure GInv (f : Bytes → Bool) (it : It) : Prop where
  wf : it.best.WF
  nonempty : ∀ p ∈ it.best.parts, p ≠ []
  tried : ∀ c ∈ it.tried, f c = true → it.best.content.length ≤ c.length

theorem ginv_kept (f : Bytes → Bool) (clk : Clock) (stopAt : Option Nat) :
    Kept (fun _ x => f x) clk stopAt Cut (GInv f) where
  flags _ _ _ _ h := ⟨h.wf, h.nonempty, h.tried⟩
  step it c mk h _ hc _ :=
    have hc := hc.candOK h.wf h.nonempty
    ⟨try_best _ it _ c mk h.wf hc.wf, try_best (fun t => ∀ p ∈ t.parts, p ≠ []) it _ c mk h.nonempty hc.nonempty,
      tried_try h.tried c mk hc.shorter⟩

theorem pairsOuter_last_pass (f : Bytes → Bool) (cfg : Cfg) (clk : Clock) (pass : Nat → It → It × Bool)
    (hrep : cfg.rep = .last ∨ cfg.rep = .always)
    (hpass : ∀ cs it, 1 ≤ cs → GInv f it → GInv f (pass cs it).1) :
    ∀ (fuel cs : Nat) (it : It), 1 ≤ cs → GInv f it →
      (pairsOuter cfg clk none pass 1 fuel cs it).outOfFuel = false →
      (pairsOuter cfg clk none pass 1 fuel cs it).internalError = false →
      ∃ it', GInv f it' ∧ (pass 1 it').2 = false ∧ pairsOuter cfg clk none pass 1 fuel cs it = (pass 1 it').1 := by
  intro fuel cs it hcs hg h1 h2
  obtain ⟨cs', it', hle, ⟨hge, hg'⟩, hq, he⟩ := pairsOuter_ends cfg clk pass 1 (fun cs it => 1 ≤ cs ∧ GInv f it) hrep
    (fun cs it hP => ⟨hP.1, hpass cs it hP.1 hP.2⟩) (fun cs it hP hl => ⟨by omega, hpass cs it hP.1 hP.2⟩)
    fuel cs it ⟨hcs, hg⟩ h1 h2
  obtain rfl : cs' = 1 := by omega
  exact ⟨it', hg', hq, he⟩

/-- As long as nothing is accepted the pass sweeps a counter: its state is `at_ k` for `k` from `k0`
up to `n`, and at `k` it proposes `cand k` (`none`: nothing). -/
structure Sweep {σ : Type} (pd : PassDef σ) (best : Testcase) (at_ : Nat → σ) (k0 n : Nat)
    (cand : Nat → Option Testcase) : Prop where
  guard : ∀ k it, it.best = best → (pd.guard (at_ k) it = true ↔ k < n)
  act : ∀ k it, k0 ≤ k → k < n → it.best = best →
    match pd.act (at_ k) it with
    | .fail => False
    | .skip => cand k = none
    | .propose c _ => cand k = some c
  next : ∀ k it r, r ≠ some .accepted →
    pd.next (at_ k) it r = if k + 1 < n then some (at_ (k + 1)) else none

/-- `∈ tried`: tested in this pass, or de-duplicated against a content tested earlier -/
theorem Sweep.quiet {σ : Type} {pd : PassDef σ} {best : Testcase} {at_ : Nat → σ} {k0 n : Nat}
    {cand : Nat → Option Testcase} (s : Sweep pd best at_ k0 n cand) (o : Oracle) (clk : Clock)
    (fuel : Nat) (it : It) (hb : it.best = best)
    (hq : (pLoop pd o clk none fuel (at_ k0) it false).2 = false)
    (hf : (pLoop pd o clk none fuel (at_ k0) it false).1.outOfFuel = false) :
    (pLoop pd o clk none fuel (at_ k0) it false).1.best = best ∧
    ∀ k, k0 ≤ k → k < n → ∀ c, cand k = some c → c.content ∈ (pLoop pd o clk none fuel (at_ k0) it false).1.tried := by
  -- everything below `k` has been proposed
  let Done (k : Nat) (it' : It) : Prop :=
    it'.best = best ∧ ∀ j, k0 ≤ j → j < k → ∀ c, cand j = some c → c.content ∈ it'.tried
  -- what the loop rule asks of a step at counter `k` after which the iterator `it'` still has
  -- `best`, has kept what was tried and has `cand k` dealt with
  have move : ∀ k it₀ it' r any, k0 ≤ k → k < n → r ≠ some .accepted → Done k it₀ → it'.best = best →
      (∀ x ∈ it₀.tried, x ∈ it'.tried) → (∀ c, cand k = some c → c.content ∈ it'.tried) →
      (pd.next (at_ k) it₀ r = none → any = true ∨ (it'.outOfFuel = false → Done n it')) ∧
      ∀ st', pd.next (at_ k) it₀ r = some st' → any = true ∨ ∃ k', st' = at_ k' ∧ k0 ≤ k' ∧ Done k' it' := by
    intro k it₀ it' r any h0 hn hr hd hb' hsub hk
    have hd' : Done (k + 1) it' := ⟨hb', fun j h1 h2 c hc => by
      rcases Nat.lt_succ_iff_lt_or_eq.mp h2 with hlt | rfl
      · exact hsub _ (hd.2 j h1 hlt c hc)
      · exact hk c hc⟩
    rw [s.next k it₀ r hr]
    by_cases hk : k + 1 < n
    · rw [if_pos hk]
      exact ⟨fun h => absurd h (by simp), fun st' h => .inr ⟨k + 1, (Option.some.inj h).symm, Nat.le_succ_of_le h0, hd'⟩⟩
    · rw [if_neg hk]
      exact ⟨fun _ => .inr fun _ => ⟨hb', fun j h1 h2 => hd'.2 j h1 (Nat.lt_of_lt_of_le h2 (Nat.not_lt.mp hk))⟩,
        fun st' h => absurd h (by simp)⟩
  -- invariant: something was accepted already (nothing is claimed), or the state is `at_ k` and
  -- everything below `k` is done
  refine (pLoop_induct_exits pd o clk none
    (fun st it' any => any = true ∨ ∃ k, st = at_ k ∧ k0 ≤ k ∧ Done k it')
    (fun it' any => any = true ∨ (it'.outOfFuel = false → Done n it'))
    ?_ (fun _ _ _ _ _ hd => by simp [deadlinePassed] at hd) (fun _ _ _ _ => .inr fun h => by simp at h) ?_ ?_ ?_
    fuel (at_ k0) it false (.inr ⟨k0, rfl, Nat.le_refl _, hb, fun j h1 h2 => absurd h2 (Nat.not_lt.mpr h1)⟩)).resolve_left (by simp [hq]) hf
  · intro st it' any hP hg
    rcases hP with ha | ⟨k, rfl, h0, hd⟩
    · exact .inl ha
    · have : ¬ k < n := fun h => by rw [(s.guard k it' hd.1).mpr h] at hg; exact absurd hg (by simp)
      exact .inr fun _ => ⟨hd.1, fun j h1 h2 => hd.2 j h1 (Nat.lt_of_lt_of_le h2 (Nat.not_lt.mp this))⟩
  · intro st it' any hP hg hact
    rcases hP with ha | ⟨k, rfl, h0, hd⟩
    · exact .inl ha
    · have ha := s.act k it' h0 ((s.guard k it' hd.1).mp hg) hd.1
      rw [hact] at ha
      exact ha.elim
  · intro st it' any hP hg _ hact
    rcases hP with ha | ⟨k, rfl, h0, hd⟩
    · exact ⟨fun _ => .inl ha, fun _ _ => .inl ha⟩
    · have hn := (s.guard k it' hd.1).mp hg
      have ha := s.act k it' h0 hn hd.1
      rw [hact] at ha
      exact move k it' it' none any h0 hn (by simp) hd hd.1 (fun _ h => h) fun c hc => absurd (ha ▸ hc) (by simp)
  · intro st it' any c mk hP hg _ hact
    rcases hP with ha | ⟨k, rfl, h0, hd⟩
    · rw [ha]; exact ⟨fun _ => .inl rfl, fun _ _ => .inl rfl⟩
    · by_cases hacc : ((it'.try o c mk).1 == Resp.accepted) = true
      · rw [hacc, Bool.or_true]; exact ⟨fun _ => .inl rfl, fun _ _ => .inl rfl⟩
      · have hacc' : ((it'.try o c mk).1 == Resp.accepted) = false := by simpa using hacc
        obtain ⟨q1, q2, q3⟩ := try_quiet it' o c mk hacc'
        have hn := (s.guard k it' hd.1).mp hg
        have ha := s.act k it' h0 hn hd.1
        rw [hact] at ha
        refine move k it' _ _ _ h0 hn (fun h => ?_) hd (q1.trans hd.1) q3 fun c' hc => ?_
        · rw [Option.some.inj h] at hacc'; exact absurd hacc' (by decide)
        · obtain rfl := Option.some.inj (ha ▸ hc : some c = some c')
          exact q2

theorem Sweep.cut {σ : Type} {pd : PassDef σ} {best : Testcase} {at_ : Nat → σ} {k0 n : Nat}
    {cand : Nat → Option Testcase} (s : Sweep pd best at_ k0 n cand) (hp : pd.Proposes Cut)
    (k : Nat) (h0 : k0 ≤ k) (hn : k < n) (c : Testcase) (hc : cand k = some c) : Cut best c := by
  have ha := s.act k { best := best } h0 hn rfl
  cases hact : pd.act (at_ k) { best := best } with
  | fail => rw [hact] at ha; exact ha.elim
  | skip => rw [hact] at ha; exact absurd (ha ▸ hc) (by simp)
  | propose c' mk =>
    rw [hact] at ha
    obtain rfl := Option.some.inj (ha ▸ hc : some c' = some c)
    exact (hp _ _ _ _ ((s.guard k _ rfl).mpr hn) hact).1

/-- the file without the two neighbours of atom `k` -/
def pairCand (t : Testcase) (k : Nat) : Testcase :=
  (t.rmslice ((k : Int) + 1) ((k : Int) + 2)).rmslice ((k : Int) - 1) (k : Int)

theorem aroundCand_one (st : AroundSt) (it : It) (h1 : 1 ≤ st.chunkStart) (hg : st.chunkStart + 1 < it.best.len) :
    aroundCand 1 st it = pairCand it.best st.chunkStart := by
  rw [aroundCand_eq 1 st it hg, Nat.min_eq_right (Nat.succ_le_of_lt hg), Int.natCast_sub h1]
  rfl

/-- the state with atom `k` kept while every chunk survives -/
def aroundAt (n k : Nat) : AroundSt :=
  { summary := List.replicate n true, chunkStart := k, before := k - 1, keep := k, after := k + 1 }

/-- `nc` only labels the log entries -/
theorem around_sweep (t : Testcase) (nc : Nat) :
    Sweep (aroundDef 1 nc) t (aroundAt t.len) 1 (t.len - 1) (fun k => some (pairCand t k)) where
  guard k it hb := by
    simp only [aroundDef, aroundAt, hb, decide_eq_true_eq]
    exact Nat.lt_sub_iff_add_lt.symm
  act k it h0 hn hb := by
    subst hb
    exact congrArg some (aroundCand_one (aroundAt _ k) it h0 (Nat.lt_sub_iff_add_lt.mp hn)).symm
  next k it r hr := by
    show aroundNext 1 (aroundAt t.len k) r = _
    rw [aroundNext_quiet 1 _ hr]
    show Option.map _ (indexS (List.replicate t.len true) (k + 2)) = _
    rw [indexS_replicate]
    have hlt : k + 1 < t.len - 1 ↔ k + 2 < t.len := Nat.lt_sub_iff_add_lt
    by_cases h : k + 2 < t.len
    · rw [if_pos h, if_pos (hlt.mpr h)]; rfl
    · rw [if_neg h, if_neg (mt hlt.mp h)]; rfl

theorem aroundPass_quiet (f : Bytes → Bool) (clk : Clock) (it : It)
    (hq : (aroundPass (fun _ x => f x) clk none 1 it).2 = false)
    (hf : (aroundPass (fun _ x => f x) clk none 1 it).1.outOfFuel = false) :
    (aroundPass (fun _ x => f x) clk none 1 it).1.best = it.best ∧
    ∀ k, 1 ≤ k → k + 1 < it.best.len →
      (pairCand it.best k).content ∈ (aroundPass (fun _ x => f x) clk none 1 it).1.tried := by
  -- the pass is unfolded once, in `hr`
  generalize hr : aroundPass (fun _ x => f x) clk none 1 it = r at hq hf ⊢
  unfold aroundPass at hr
  simp only [Util.divUp_one] at hr
  by_cases hn : it.best.len < 3
  · rw [if_pos hn] at hr
    subst hr
    exact ⟨rfl, fun k h1 h2 => by omega⟩
  · rw [if_neg hn] at hr
    subst hr
    obtain ⟨h1, h2⟩ := (around_sweep it.best it.best.len).quiet _ clk _ it rfl hq hf
    exact ⟨h1, fun k hk1 hk2 => h2 k hk1 (Nat.lt_sub_iff_add_lt.mpr hk2) _ rfl⟩

/-- The bracket balances `try_removing_chunks` computes at chunk size 1.  Entry `i` is the balance of
`parts[i]`: `_count_diff` (strategies.py:790-794) indexes the parts by the chunk number at every
chunk size. -/
def balLists (t : Testcase) : List Int × List Int × List Int :=
  ((List.range t.len).map (fun i => countDiff t.parts i 0x7B 0x7D),
   (List.range t.len).map (fun i => countDiff t.parts i 0x5B 0x5D),
   (List.range t.len).map (fun i => countDiff t.parts i 0x28 0x29))

/-- the partner search of the code for atom `j` of `t` when every chunk survives -/
def partnerOf (t : Testcase) (j : Nat) : Nat × (Int × Int × Int) :=
  findRhs (List.replicate t.len true) (balLists t).1 (balLists t).2.1 (balLists t).2.2
    ((List.replicate t.len true).drop (j + 1)) j (balOf (balLists t).1 (balLists t).2.1 (balLists t).2.2 j)

/-- what the fixpoint says about atom `j`: deleted alone if balanced, else together with the partner
the search finds (`none`: nothing is claimed) -/
def balTarget (t : Testcase) (j : Nat) : Option Testcase :=
  if balZero (balOf (balLists t).1 (balLists t).2.1 (balLists t).2.2 j) then
    some (t.rmslice (j : Int) ((j : Int) + 1))
  else if balZero (partnerOf t j).2 then
    some ((t.rmslice ((partnerOf t j).1 : Int) (((partnerOf t j).1 : Int) + 1)).rmslice (j : Int) ((j : Int) + 1))
  else none

def addBal (a b : Int × Int × Int) : Int × Int × Int := (a.1 + b.1, a.2.1 + b.2.1, a.2.2 + b.2.2)

/-- the code tests the opposite, `isNeg` -/
def nonNeg (b : Int × Int × Int) : Bool := decide (0 ≤ b.1) && decide (0 ≤ b.2.1) && decide (0 ≤ b.2.2)

/-- `n_curly < 0 or n_square < 0 or n_normal < 0`, at which the search of the code gives up -/
def isNeg (b : Int × Int × Int) : Bool := decide (b.1 < 0) || decide (b.2.1 < 0) || decide (b.2.2 < 0)

theorem nonNeg_eq (b : Int × Int × Int) : nonNeg b = !isNeg b := by
  simp only [nonNeg, isNeg, Bool.not_or, ← decide_not, Int.not_lt]

/-- the running balance `bal + balance(rhs+1) + ... + balance(rhs+d)` -/
def accFrom (curly square normal : List Int) (rhs : Nat) (bal : Int × Int × Int) : Nat → Int × Int × Int
  | 0 => bal
  | d + 1 => addBal (accFrom curly square normal rhs bal d) (balOf curly square normal (rhs + d + 1))

theorem accFrom_shift (curly square normal : List Int) (rhs : Nat) (bal : Int × Int × Int) (d : Nat) :
    accFrom curly square normal (rhs + 1) (accFrom curly square normal rhs bal 1) d
      = accFrom curly square normal rhs bal (d + 1) := by
  induction d with
  | zero => rfl
  | succ d ih =>
    show addBal (accFrom curly square normal (rhs + 1) _ d) _ = addBal (accFrom curly square normal rhs bal (d + 1)) _
    rw [ih, show rhs + 1 + d + 1 = rhs + (d + 1) + 1 by omega]

/-- `d` is the first positive offset with zero balance, no kind negative before -/
def FirstZero (curly square normal : List Int) (rhs : Nat) (bal : Int × Int × Int) (d : Nat) : Prop :=
  1 ≤ d ∧ balZero (accFrom curly square normal rhs bal d) = true ∧
  ∀ d', 1 ≤ d' → d' < d →
    balZero (accFrom curly square normal rhs bal d') = false ∧ nonNeg (accFrom curly square normal rhs bal d') = true

theorem findRhs_cons_true (summary : List Bool) (curly square normal : List Int) (rest : List Bool) (rhs : Nat)
    (bal : Int × Int × Int) :
    findRhs summary curly square normal (true :: rest) rhs bal
      = if isNeg (accFrom curly square normal rhs bal 1) || balZero (accFrom curly square normal rhs bal 1)
        then (rhs + 1, accFrom curly square normal rhs bal 1)
        else findRhs summary curly square normal rest (rhs + 1) (accFrom curly square normal rhs bal 1) := by
  rw [findRhs]
  show (if isNeg (accFrom curly square normal rhs bal 1) = true then _ else
    if balZero (accFrom curly square normal rhs bal 1) = true then _ else _) = _
  cases isNeg (accFrom curly square normal rhs bal 1) <;> cases balZero (accFrom curly square normal rhs bal 1) <;> rfl

/-- the search returns the first offset `d ≥ 1` at which the running balance is zero or negative in
some kind, the last offset `m` if there is none -/
theorem findRhs_alive (summary : List Bool) (curly square normal : List Int) (m rhs : Nat) (bal : Int × Int × Int) :
    ∃ d, d ≤ m ∧
      findRhs summary curly square normal (List.replicate m true) rhs bal = (rhs + d, accFrom curly square normal rhs bal d) ∧
      (∀ d', 1 ≤ d' → d' < d → balZero (accFrom curly square normal rhs bal d') = false ∧
        nonNeg (accFrom curly square normal rhs bal d') = true) ∧
      (d < m → 1 ≤ d ∧ (balZero (accFrom curly square normal rhs bal d) = true ∨
        nonNeg (accFrom curly square normal rhs bal d) = false)) := by
  induction m generalizing rhs bal with
  | zero => exact ⟨0, Nat.le_refl 0, rfl, fun d' h1 h2 => by omega, fun h => by omega⟩
  | succ m ih =>
    rw [List.replicate_succ, findRhs_cons_true]
    by_cases h1 : (isNeg (accFrom curly square normal rhs bal 1) || balZero (accFrom curly square normal rhs bal 1)) = true
    · rw [if_pos h1]
      refine ⟨1, by omega, rfl, fun d' h1 h2 => by omega, fun _ => ⟨Nat.le_refl 1, ?_⟩⟩
      rw [nonNeg_eq]
      simpa [Or.comm] using h1
    · -- the search goes on: one more than what it finds from `rhs + 1`
      rw [if_neg h1]
      simp only [Bool.or_eq_true, not_or, Bool.not_eq_true] at h1
      obtain ⟨d, hd, hres, hbefore, hstop⟩ := ih (rhs + 1) (accFrom curly square normal rhs bal 1)
      refine ⟨d + 1, by omega, ?_, fun d' hd1 hd2 => ?_, fun h => ⟨by omega, ?_⟩⟩
      · rw [hres, accFrom_shift]
        congr 1
        omega
      · match d', hd1, hd2 with
        | 1, _, _ => exact ⟨h1.2, by rw [nonNeg_eq, h1.1]; rfl⟩
        | e + 2, _, h =>
          have := hbefore (e + 1) (Nat.succ_le_succ (Nat.zero_le e)) (Nat.lt_of_succ_lt_succ h)
          rwa [accFrom_shift] at this
      · rw [← accFrom_shift]
        exact (hstop (by omega)).2

/-- from a balance that is not zero the search reports zero exactly at a `FirstZero` among the next
`m` chunks -/
theorem findRhs_firstZero (summary : List Bool) (curly square normal : List Int) (m rhs : Nat) (bal : Int × Int × Int)
    (hz : balZero bal = false) :
    (balZero (findRhs summary curly square normal (List.replicate m true) rhs bal).2 = true →
      ∃ d, d ≤ m ∧ (findRhs summary curly square normal (List.replicate m true) rhs bal).1 = rhs + d ∧
        FirstZero curly square normal rhs bal d) ∧
    (∀ d, d ≤ m → FirstZero curly square normal rhs bal d →
      balZero (findRhs summary curly square normal (List.replicate m true) rhs bal).2 = true ∧
      (findRhs summary curly square normal (List.replicate m true) rhs bal).1 = rhs + d) := by
  obtain ⟨d₀, hd₀, hres, hbefore, hstop⟩ := findRhs_alive summary curly square normal m rhs bal
  rw [hres]
  refine ⟨fun h => ⟨d₀, hd₀, rfl, ?_, h, hbefore⟩, fun d hd hfz => ?_⟩
  · -- the search has moved: the balance it started with is not zero
    rcases Nat.eq_zero_or_pos d₀ with rfl | hpos
    · exact absurd (hz ▸ h : false = true) (by simp)
    · exact hpos
  · -- a first zero is where the search stops
    obtain rfl : d₀ = d := by
      rcases Nat.lt_trichotomy d₀ d with hlt | heq | hgt
      · obtain ⟨h1, hs⟩ := hstop (by omega)
        obtain ⟨n1, n2⟩ := hfz.2.2 d₀ h1 hlt
        rw [n1, n2] at hs
        simp at hs
      · exact heq
      · have := (hbefore d hfz.1 hgt).1
        rw [hfz.2.1] at this
        exact absurd this (by simp)
    exact ⟨hfz.2.1, rfl⟩

theorem partnerOf_range (t : Testcase) (j : Nat) (hj : j < t.len) :
    j ≤ (partnerOf t j).1 ∧ (partnerOf t j).1 < t.len := by
  obtain ⟨d, hd, hp, -⟩ := findRhs_alive (List.replicate t.len true) (balLists t).1 (balLists t).2.1 (balLists t).2.2
    (t.len - (j + 1)) j (balOf (balLists t).1 (balLists t).2.1 (balLists t).2.2 j)
  rw [partnerOf, List.drop_replicate, hp]
  exact ⟨Nat.le_add_right j d, by show j + d < t.len; omega⟩

/-- the state at atom `j` while every chunk survives -/
def balAt (n j : Nat) : BalSt := { summary := List.replicate n true, chunkStart := j, lhs := j }

theorem balCand1_one (st : BalSt) (it : It) (hg : st.chunkStart < it.best.len) :
    balCand1 1 st it = it.best.rmslice (st.chunkStart : Int) ((st.chunkStart : Int) + 1) := by
  unfold balCand1
  rw [Util.natCast_min_succ hg]

theorem balCand2_one (it : It) (j rhs : Nat) (h1 : j ≤ rhs) (h2 : rhs < it.best.len) :
    balCand2 1 (balAt it.best.len j) it rhs
      = (it.best.rmslice (rhs : Int) ((rhs : Int) + 1)).rmslice (j : Int) ((j : Int) + 1) := by
  unfold balCand2 balAt
  simp only
  -- `rhs` is chunk number `rhs - j` after `j`, every chunk between them surviving
  rw [countS_replicate _ _ _ h1 (Nat.le_of_lt h2), Nat.one_mul, Nat.add_sub_cancel' h1,
    Nat.min_eq_right (Nat.le_of_lt h2), Util.natCast_min_succ h2, Util.natCast_min_succ (Nat.lt_of_le_of_lt h1 h2)]

theorem bal_sweep (t : Testcase) :
    Sweep (balDef 1 t.len (balLists t).1 (balLists t).2.1 (balLists t).2.2) t (balAt t.len) 0 t.len (balTarget t) where
  guard k it hb := by simp only [balDef, balAt, hb, decide_eq_true_eq]
  next j it r hr := by
    show balNext 1 _ _ _ (balAt t.len j) r = _
    rw [balNext_quiet 1 _ _ _ _ hr]
    show (match indexS (List.replicate t.len true) (j + 1) with | some l => _ | none => none) = _
    rw [indexS_replicate]
    by_cases h : j + 1 < t.len
    · rw [if_pos h, if_pos h]; rfl
    · rw [if_neg h, if_neg h]
  act j it _ hj hb := by
    subst hb
    obtain ⟨r1, r2⟩ := partnerOf_range it.best j hj
    have hrhs : balRhs (balLists it.best).1 (balLists it.best).2.1 (balLists it.best).2.2 (balAt it.best.len j)
      = partnerOf it.best j := rfl
    unfold balTarget
    -- `balDef`'s action as `balAct`, so that the inversion lemmas apply without unfolding it again
    simp only [balDef]
    cases hact : balAct 1 it.best.len (balLists it.best).1 (balLists it.best).2.1 (balLists it.best).2.2
      (balAt it.best.len j) it with
    | fail =>
      -- the `assert`: all `j` chunks before `lhs` survive
      have h := countS_replicate it.best.len 0 j (Nat.zero_le j) (by omega)
      exact absurd (show countS (List.replicate it.best.len true) 0 j * 1 = j by rw [h, Nat.sub_zero, Nat.mul_one])
        (balAct_fail.mp hact)
    | skip =>
      obtain ⟨hz, hr⟩ := balAct_skip hact
      rw [hrhs] at hr
      rw [show (balAt it.best.len j).lhs = j from rfl] at hz
      simp [hz, hr]
    | propose c mk =>
      rcases balAct_propose hact with ⟨hz, rfl, -⟩ | ⟨hz, hr, rfl, -⟩
      · rw [show (balAt it.best.len j).lhs = j from rfl] at hz
        rw [if_pos hz, balCand1_one _ it hj]
        rfl
      · rw [show (balAt it.best.len j).lhs = j from rfl] at hz
        rw [hrhs] at hr ⊢
        rw [if_neg (by simp [hz]), if_pos hr, balCand2_one it j _ r1 r2]

theorem balPass_quiet (f : Bytes → Bool) (clk : Clock) (it : It)
    (hq : (balPass (fun _ x => f x) clk none 1 it).2 = false)
    (hf : (balPass (fun _ x => f x) clk none 1 it).1.outOfFuel = false)
    (he : (balPass (fun _ x => f x) clk none 1 it).1.internalError = false) :
    (balPass (fun _ x => f x) clk none 1 it).1.best = it.best ∧
    (2 ≤ it.best.len → ∀ j, j < it.best.len → ∀ c, balTarget it.best j = some c →
      c.content ∈ (balPass (fun _ x => f x) clk none 1 it).1.tried) := by
  -- `he` is not needed: while every chunk survives the `assert` of the pass cannot fail
  generalize hr : balPass (fun _ x => f x) clk none 1 it = r at hq hf ⊢
  unfold balPass at hr
  simp only [Util.divUp_one] at hr
  by_cases hn : it.best.len < 2
  · rw [if_pos hn] at hr
    subst hr
    exact ⟨rfl, fun h2 => absurd h2 (Nat.not_le.mpr hn)⟩
  · rw [if_neg hn] at hr
    subst hr
    obtain ⟨h1, h2⟩ := (bal_sweep it.best).quiet _ clk _ it rfl hq hf
    exact ⟨h1, fun _ j => h2 j (Nat.zero_le j)⟩

/-- `passOf` is `aroundPass` or `balPass`, `run` what `around` and `balanced` unfold to, `Goal t c`
"`c` is a deletion from `t` that the fixpoint statement names".  The last pass has proposed them
all, they are shorter than the best, and by `GInv` a tried content that the test accepts is at
least as long as the best. -/
theorem pairs_fixpoint (f : Bytes → Bool) (cfg : Cfg) (clk : Clock) (passOf : Option Nat → Nat → It → It × Bool)
    (Goal : Testcase → Testcase → Prop) (t : Testcase) (hwf : t.WF) (hne : ∀ p ∈ t.parts, p ≠ [])
    (hmin : cfg.min ≤ 1) (hmax : 1 ≤ cfg.max) (hrep : cfg.rep = .last ∨ cfg.rep = .always)
    (hstop : cfg.stopAfter = none)
    (hpass : ∀ cs it, GInv f it → GInv f (passOf none cs it).1)
    (hquiet : ∀ it, (passOf none 1 it).2 = false → (passOf none 1 it).1.outOfFuel = false →
      (passOf none 1 it).1.internalError = false →
      (passOf none 1 it).1.best = it.best ∧ ∀ c, Goal it.best c → c.content ∈ (passOf none 1 it).1.tried)
    (hgoal : ∀ t c, t.WF → (∀ p ∈ t.parts, p ≠ []) → Goal t c → c.content.length < t.content.length)
    (run : It)
    (hrun : run = pairsOuter cfg clk (stopAt cfg clk) (passOf (stopAt cfg clk)) (max cfg.min 1) (pairsFuel t)
      (min cfg.max (Util.lp2 t.len)) { best := t })
    (h1 : run.outOfFuel = false) (h2 : run.internalError = false) (c : Testcase) (hc : Goal run.best c) :
    f c.content = false := by
  have hs : stopAt cfg clk = none := by simp [stopAt, hstop]
  have hfin : max cfg.min 1 = 1 := by omega
  have hcs : 1 ≤ min cfg.max (Util.lp2 t.len) := by have := Util.lp2_pos t.len; omega
  rw [hs, hfin] at hrun
  subst hrun
  obtain ⟨it', g', hq, hr⟩ := pairsOuter_last_pass f cfg clk (passOf none) hrep (fun cs it _ => hpass cs it) _ _ _ hcs
    ⟨hwf, hne, by simp⟩ h1 h2
  rw [hr] at h1 h2 hc
  obtain ⟨q1, q2⟩ := hquiet it' hq h1 h2
  rw [q1] at hc
  exact tried_rejects (hpass 1 it' g').tried (q2 c hc) (q1 ▸ hgoal _ c g'.wf g'.nonempty hc)

end Strat
