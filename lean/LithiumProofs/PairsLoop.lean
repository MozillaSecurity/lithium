/-
The two `try_removing_chunks` loops are one loop `pLoop` over a `PassDef`, and both strategies run
the outer loop `pairsOuter`: what is proved of either is proved once, for any `PassDef` and any pass.
-/
import LithiumModel.Pairs
import LithiumProofs.Iter

namespace Strat
open Testcase

/-- `P` holds at the top of every iteration, `Q` of every way the pass can end: the guard fails, the
deadline passed, a `ValueError` exit after a skip or after a proposal, a failed `assert`, and — for
the executable model only — running out of fuel. -/
theorem pLoop_induct_exits {σ : Type} (pd : PassDef σ) (o : Oracle) (clk : Clock) (stopAt : Option Nat)
    (P : σ → It → Bool → Prop) (Q : It → Bool → Prop)
    (hguard : ∀ st it any, P st it any → pd.guard st it = false → Q it any)
    (hdead : ∀ st it any, P st it any → pd.guard st it = true → deadlinePassed stopAt clk it = true → Q it any)
    (hfuel : ∀ st it any, P st it any → Q { it with outOfFuel := true } any)
    (hfail : ∀ st it any, P st it any → pd.guard st it = true → pd.act st it = .fail →
      Q { it with internalError := true } any)
    (hskip : ∀ st it any, P st it any → pd.guard st it = true → deadlinePassed stopAt clk it = false →
      pd.act st it = .skip →
      (pd.next st it none = none → Q it any) ∧ ∀ st', pd.next st it none = some st' → P st' it any)
    (htry : ∀ st it any c mk, P st it any → pd.guard st it = true → deadlinePassed stopAt clk it = false →
      pd.act st it = .propose c mk →
      (pd.next st it (some (it.try o c mk).1) = none →
        Q (it.try o c mk).2 (any || ((it.try o c mk).1 == .accepted))) ∧
      ∀ st', pd.next st it (some (it.try o c mk).1) = some st' →
        P st' (it.try o c mk).2 (any || ((it.try o c mk).1 == .accepted))) :
    ∀ (fuel : Nat) (st : σ) (it : It) (any : Bool), P st it any →
      Q (pLoop pd o clk stopAt fuel st it any).1 (pLoop pd o clk stopAt fuel st it any).2 := by
  intro fuel
  induction fuel with
  | zero => intro st it any h; exact hfuel st it any h
  | succ f ih =>
    intro st it any h
    unfold pLoop
    by_cases hg : pd.guard st it = true
    · simp only [hg, Bool.not_true, Bool.false_eq_true, if_false]
      by_cases hd : deadlinePassed stopAt clk it = true
      · simp only [hd, if_true]; exact hdead st it any h hg hd
      · have hd' : deadlinePassed stopAt clk it = false := by simpa using hd
        simp only [hd', Bool.false_eq_true, if_false]
        cases hact : pd.act st it with
        | fail => exact hfail st it any h hg hact
        | skip =>
          simp only
          obtain ⟨s1, s2⟩ := hskip st it any h hg hd' hact
          cases hn : pd.next st it none with
          | none => exact s1 hn
          | some st' => exact ih st' it any (s2 st' hn)
        | propose c mk =>
          simp only
          obtain ⟨t1, t2⟩ := htry st it any c mk h hg hd' hact
          cases hn : pd.next st it (some (it.try o c mk).1) with
          | none => exact t1 hn
          | some st' => exact ih st' _ _ (t2 st' hn)
    · have hg' : pd.guard st it = false := by simpa using hg
      simp only [hg', Bool.not_false, if_true]
      exact hguard st it any h hg'

/-- `I`: a state invariant that `next` keeps and under which no `assert` fails; `mu`: a measure that
every `next` decreases.  The induction is on the fuel itself, because `pLoop_induct_exits` hides it. -/
theorem pLoop_bound {σ : Type} (pd : PassDef σ) (o : Oracle) (clk : Clock) (stopAt : Option Nat)
    (I : σ → Prop) (mu : σ → Nat)
    (hnext : ∀ st it r st', I st → pd.next st it r = some st' → I st' ∧ mu st' < mu st)
    (hnofail : ∀ st it, I st → pd.guard st it = true → pd.act st it ≠ .fail) :
    ∀ (fuel : Nat) (st : σ) (it : It) (any : Bool), I st → mu st < fuel →
      (pLoop pd o clk stopAt fuel st it any).1.outOfFuel = it.outOfFuel ∧
      (pLoop pd o clk stopAt fuel st it any).1.internalError = it.internalError ∧
      (pLoop pd o clk stopAt fuel st it any).1.deadlineStop = it.deadlineStop ∧
      (pLoop pd o clk stopAt fuel st it any).1.nTests ≤ it.nTests + mu st + 1 := by
  intro fuel
  induction fuel with
  | zero => intro st it any _ h; omega
  | succ f ih =>
    intro st it any hI hmu
    -- after an iteration that ran at most one test and touched no flag
    have step : ∀ (r : Option Resp) (it' : It) (any' : Bool), it'.outOfFuel = it.outOfFuel →
        it'.internalError = it.internalError → it'.deadlineStop = it.deadlineStop → it'.nTests ≤ it.nTests + 1 →
        ∀ res, res = (match pd.next st it r with
          | some st' => pLoop pd o clk stopAt f st' it' any'
          | none => (it', any')) →
        res.1.outOfFuel = it.outOfFuel ∧ res.1.internalError = it.internalError ∧
        res.1.deadlineStop = it.deadlineStop ∧ res.1.nTests ≤ it.nTests + mu st + 1 := by
      intro r it' any' f1 f2 f3 hnt res hres
      cases hn : pd.next st it r with
      | none =>
        rw [hn] at hres
        subst hres
        exact ⟨f1, f2, f3, by dsimp only; omega⟩
      | some st' =>
        rw [hn] at hres
        subst hres
        obtain ⟨i1, i2⟩ := hnext st it r st' hI hn
        obtain ⟨b1, b2, b3, b4⟩ := ih st' it' any' i1 (by omega)
        exact ⟨b1.trans f1, b2.trans f2, b3.trans f3, by dsimp only; omega⟩
    unfold pLoop
    by_cases hg : pd.guard st it = true
    · simp only [hg, Bool.not_true, Bool.false_eq_true, if_false]
      by_cases hd : deadlinePassed stopAt clk it = true
      · rw [if_pos hd]
        exact ⟨rfl, rfl, rfl, by dsimp only; omega⟩
      · have hd' : deadlinePassed stopAt clk it = false := by simpa using hd
        simp only [hd', Bool.false_eq_true, if_false]
        cases hact : pd.act st it with
        | fail => exact absurd hact (hnofail st it hI hg)
        | skip => exact step none it any rfl rfl rfl (Nat.le_succ _) _ rfl
        | propose c mk =>
          obtain ⟨f1, f2, f3⟩ := try_flags it o c mk
          have hnt : (it.try o c mk).2.nTests ≤ it.nTests + 1 := by
            rcases try_eq it o c mk with ⟨-, e⟩ | ⟨-, -, e⟩ | ⟨-, -, e⟩ <;> rw [e] <;> simp
          exact step _ _ _ f1 f2 f3 hnt _ rfl
    · have hg' : pd.guard st it = false := by simpa using hg
      rw [if_pos (by rw [hg']; rfl)]
      exact ⟨rfl, rfl, rfl, by dsimp only; omega⟩

/-- the regular end `hend` knows that the deadline has not passed, that `cs ≤ final` and that the
repeat test failed; `hrepeat` and `hhalve` are told neither -/
theorem pairsOuter_induct (cfg : Cfg) (clk : Clock) (stopAt : Option Nat)
    (pass : Nat → It → It × Bool) (final : Nat) (P : Nat → It → Prop) (Q : It → Prop)
    (hfuel : ∀ cs it, P cs it → Q { it with outOfFuel := true })
    (hbad : ∀ cs it, P cs it → ((pass cs it).1.outOfFuel || (pass cs it).1.internalError) = true → Q (pass cs it).1)
    (hdead : ∀ cs it, P cs it → deadlinePassed stopAt clk (pass cs it).1 = true →
      Q { (pass cs it).1 with deadlineStop := true })
    (hend : ∀ cs it, P cs it → ((pass cs it).1.outOfFuel || (pass cs it).1.internalError) = false →
      deadlinePassed stopAt clk (pass cs it).1 = false → cs ≤ final →
      ((pass cs it).2 && (cfg.rep == .always || (cfg.rep == .last && decide (cs ≤ final)))) = false → Q (pass cs it).1)
    (hrepeat : ∀ cs it, P cs it → ((pass cs it).1.outOfFuel || (pass cs it).1.internalError) = false →
      (pass cs it).2 = true → P cs (pass cs it).1)
    (hhalve : ∀ cs it, P cs it → ((pass cs it).1.outOfFuel || (pass cs it).1.internalError) = false →
      ¬ cs ≤ final → P (cs / 2) (pass cs it).1) :
    ∀ (fuel cs : Nat) (it : It), P cs it → Q (pairsOuter cfg clk stopAt pass final fuel cs it) := by
  intro fuel
  induction fuel with
  | zero => intro cs it h; exact hfuel cs it h
  | succ f ih =>
    intro cs it h
    unfold pairsOuter
    simp only
    by_cases hflag : ((pass cs it).1.outOfFuel || (pass cs it).1.internalError) = true
    · rw [if_pos hflag]; exact hbad cs it h hflag
    · have hflag' : ((pass cs it).1.outOfFuel || (pass cs it).1.internalError) = false := by simpa using hflag
      rw [if_neg hflag]
      by_cases hd : deadlinePassed stopAt clk (pass cs it).1 = true
      · rw [if_pos hd]; exact hdead cs it h hd
      · have hd' : deadlinePassed stopAt clk (pass cs it).1 = false := by simpa using hd
        rw [if_neg hd]
        by_cases hr : ((pass cs it).2 && (cfg.rep == .always || (cfg.rep == .last && decide (cs ≤ final)))) = true
        · rw [if_pos hr]
          exact ih cs _ (hrepeat cs it h hflag' (Bool.and_eq_true_iff.mp hr).1)
        · have hr' : ((pass cs it).2 && (cfg.rep == .always || (cfg.rep == .last && decide (cs ≤ final)))) = false := by
            simpa using hr
          rw [if_neg hr]
          by_cases hl : cs ≤ final
          · rw [if_pos (by simpa using hl)]; exact hend cs it h hflag' hd' hl hr'
          · rw [if_neg (by simpa using hl)]; exact ih (cs / 2) _ (hhalve cs it h hflag' hl)

/-- a run without flags ends with a pass at a size `≤ final` that accepted nothing; `P` is carried
along to it.  Without a time limit: with one, a run can end after a pass that accepted something. -/
theorem pairsOuter_ends (cfg : Cfg) (clk : Clock) (pass : Nat → It → It × Bool) (final : Nat)
    (P : Nat → It → Prop) (hrep : cfg.rep = .last ∨ cfg.rep = .always)
    (hsame : ∀ cs it, P cs it → P cs (pass cs it).1)
    (hhalve : ∀ cs it, P cs it → ¬ cs ≤ final → P (cs / 2) (pass cs it).1)
    (fuel cs : Nat) (it : It) (h : P cs it) :
    (pairsOuter cfg clk none pass final fuel cs it).outOfFuel = false →
    (pairsOuter cfg clk none pass final fuel cs it).internalError = false →
    ∃ cs' it', cs' ≤ final ∧ P cs' it' ∧ (pass cs' it').2 = false ∧
      pairsOuter cfg clk none pass final fuel cs it = (pass cs' it').1 :=
  pairsOuter_induct cfg clk none pass final P
    (fun r => r.outOfFuel = false → r.internalError = false →
      ∃ cs' it', cs' ≤ final ∧ P cs' it' ∧ (pass cs' it').2 = false ∧ r = (pass cs' it').1)
    (fun _ _ _ h1 _ => absurd h1 (by simp))
    (fun cs it _ hflag h1 h2 => by simp [h1, h2] at hflag)
    (fun cs it _ hd => by simp [deadlinePassed] at hd)
    (fun cs it hP _ _ hlast hrepeat _ _ => by
      refine ⟨cs, it, hlast, hP, ?_, rfl⟩
      -- a pass at the last chunk size that accepted something would have been repeated
      rcases hrep with hr | hr
      · simpa [hr, hlast] using hrepeat
      · simpa [hr, hlast] using hrepeat)
    (fun cs it hP _ _ => hsame cs it hP)
    (fun cs it hP _ hl => hhalve cs it hP hl)
    fuel cs it h

/-- what `Kept.step` asks of every candidate the pass proposes under its guard -/
def PassDef.Proposes {σ : Type} (pd : PassDef σ) (C : Testcase → Testcase → Prop) : Prop :=
  ∀ st it c mk, pd.guard st it = true → pd.act st it = .propose c mk → C it.best c ∧ Logged it c mk

theorem pLoop_keeps {σ : Type} {pd : PassDef σ} {o : Oracle} {clk : Clock} {stopAt : Option Nat}
    {C : Testcase → Testcase → Prop} {Q : It → Prop} (hpd : pd.Proposes C) (hQ : Kept o clk stopAt C Q)
    (fuel : Nat) (st : σ) (it : It) (any : Bool) (h : Q it) : Q (pLoop pd o clk stopAt fuel st it any).1 :=
  pLoop_induct_exits pd o clk stopAt (fun _ it _ => Q it) (fun it _ => Q it)
    (fun _ _ _ h _ => h) (fun _ _ _ h _ _ => h) (fun _ it _ h => hQ.flags it _ _ _ h)
    (fun _ it _ h _ _ => hQ.flags it _ _ _ h) (fun _ _ _ h _ _ _ => ⟨fun _ => h, fun _ _ => h⟩)
    (fun st it _ c mk h hg hd ha =>
      have k := hpd st it c mk hg ha
      have r := hQ.step it c mk h hd k.1 k.2
      ⟨fun _ => r, fun _ _ => r⟩)
    fuel st it any h

theorem pairsOuter_keeps {o : Oracle} {cfg : Cfg} {clk : Clock} {stopAt : Option Nat}
    {C : Testcase → Testcase → Prop} {Q : It → Prop} (hQ : Kept o clk stopAt C Q)
    {pass : Nat → It → It × Bool} (hpass : ∀ cs it, Q it → Q (pass cs it).1)
    (final fuel cs : Nat) (it : It) (h : Q it) : Q (pairsOuter cfg clk stopAt pass final fuel cs it) :=
  pairsOuter_induct cfg clk stopAt pass final (fun _ it => Q it) Q
    (fun _ it h => hQ.flags it _ _ _ h) (fun cs it h _ => hpass cs it h)
    (fun cs it h _ => hQ.flags _ _ _ _ (hpass cs it h))
    (fun cs it h _ _ _ _ => hpass cs it h) (fun cs it h _ _ => hpass cs it h) (fun cs it h _ _ => hpass cs it h)
    fuel cs it h

end Strat
