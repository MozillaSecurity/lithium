/-
minimize-balanced WITH the experimental move: the protected prefix and suffix, and the time limit.
-/
import LithiumModel.PairsMove
import LithiumProofs.PairsCand

namespace Strat
open Testcase

theorem balMAct_propose {cs nc : Nat} {st : BalMSt} {it : It} {c : Testcase} {mk : Resp → Att}
    (h : balMAct cs nc st it = .propose c mk) :
    (st.mode = none ∧ balAct cs nc st.curly st.square st.normal st.plain it = .propose c mk) ∨
    ∃ m, c = moveCand cs m it ∧ mk = moveMk m it c := by
  unfold balMAct at h
  split at h
  · rename_i hm
    exact .inl ⟨hm, h⟩
  · rename_i m _
    split at h
    · exact absurd h (by simp)
    · split at h
      · exact absurd h (by simp)
      · split at h
        · exact absurd h (by simp)
        · simp only [PAct.propose.injEq] at h
          obtain ⟨rfl, rfl⟩ := h
          exact .inr ⟨m, rfl, rfl⟩

/-- all that is proved of a move: it leaves the protected prefix and suffix alone -/
theorem balMDef_proposes (cs nc : Nat) (hcs : 1 ≤ cs) : (balMDef cs nc).Proposes SameFrame := by
  intro st it c mk hg ha
  rcases balMAct_propose ha with ⟨hm, ha⟩ | ⟨m, rfl, rfl⟩
  · have hg' : (balDef cs nc st.curly st.square st.normal).guard st.plain it = true := by
      simpa [balMDef, hm, balDef, BalMSt.plain] using hg
    obtain ⟨h1, h2⟩ := balDef_proposes cs nc _ _ _ hcs st.plain it c mk hg' ha
    exact ⟨h1.chain.closed (frame_closed it.best) ⟨rfl, rfl⟩, h2⟩
  · refine ⟨?_, fun _ => ⟨rfl, rfl, rfl⟩⟩
    unfold moveCand
    cases m.phase <;> exact ⟨rfl, rfl⟩

theorem balMPass_keeps {o : Oracle} {clk : Clock} {stopAt : Option Nat} {Q : It → Prop}
    (hQ : Kept o clk stopAt SameFrame Q) (cs : Nat) (it : It) (h : Q it) : Q (balMPass o clk stopAt cs it).1 := by
  unfold balMPass
  simp only
  split
  · exact h
  · exact pLoop_keeps (balMDef_proposes cs _ (Util.pos_of_divUp (n := it.best.len) (by omega))) hQ _ _ _ _ h

theorem balancedMove_keeps {cfg : Cfg} {o : Oracle} {clk : Clock} {Q : It → Prop}
    (hQ : Kept o clk (stopAt cfg clk) SameFrame Q) (t : Testcase) (h : Q { best := t }) :
    Q (balancedMove cfg o clk t) :=
  pairsOuter_keeps hQ (balMPass_keeps hQ) _ _ _ _ h

theorem balancedMove_frame (cfg : Cfg) (o : Oracle) (clk : Clock) (t : Testcase) :
    Frame t (balancedMove cfg o clk t) :=
  frame_of_allT t _ (balancedMove_keeps
    (allT_kept (fun _ _ h ht => ht.trans h) o clk _) t (allT_init ⟨rfl, rfl⟩))

theorem balancedMove_onTime (cfg : Cfg) (o : Oracle) (clk : Clock) (t : Testcase) :
    OnTime (stopAt cfg clk) clk (balancedMove cfg o clk t) :=
  balancedMove_keeps (onTime_kept o clk _ _) t (onTime_init _ clk t)

end Strat
