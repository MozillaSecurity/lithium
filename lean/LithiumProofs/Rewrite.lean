/-
The round skeleton of the rewriting strategies ends after at most `B + log2 cs + 2` passes when the
passes cannot report more than `B` removed characters in total (C09).
-/
import LithiumModel.Rewrite
import LithiumProofs.Util

namespace Strat

/-- the part of the budget `B` not yet removed, plus the chunk sizes still to come above `final` -/
def rwMeasure (final B : Nat) (pass : Nat → Nat × Nat) (k cs : Nat) : Nat :=
  (B - removedSum pass k) + (if cs ≤ final then 0 else Nat.log2 cs + 1)

theorem rwMeasure_repeat {final B : Nat} {pass : Nat → Nat × Nat} {k : Nat} (cs : Nat)
    (h : (pass k).2 ≠ 0) (hB : removedSum pass (k + 1) ≤ B) :
    rwMeasure final B pass (k + 1) cs + 1 ≤ rwMeasure final B pass k cs := by
  have hsum : removedSum pass (k + 1) = removedSum pass k + (pass k).2 := rfl
  unfold rwMeasure
  omega

theorem rwMeasure_halve {final B : Nat} {pass : Nat → Nat × Nat} {cs : Nat} (k : Nat)
    (hf : 1 ≤ final) (h : ¬ cs ≤ final) :
    rwMeasure final B pass (k + 1) (cs / 2) + 1 ≤ rwMeasure final B pass k cs := by
  have ha : B - removedSum pass (k + 1) ≤ B - removedSum pass k :=
    Nat.sub_le_sub_left (Nat.le_add_right _ _) B
  have hb : (if cs / 2 ≤ final then 0 else Nat.log2 (cs / 2) + 1) + 1 ≤ Nat.log2 cs + 1 := by
    have hl := Util.log2_halve cs (by omega)
    split <;> omega
  unfold rwMeasure
  rw [if_neg h]
  omega

theorem rwLoop_bound (rep : Repeat) (final B P : Nat) (pass : Nat → Nat × Nat) (hf : 1 ≤ final)
    (hP : ∀ k, (pass k).1 ≤ P) (hB : ∀ k, removedSum pass k ≤ B) :
    ∀ (fuel k cs tests : Nat), rwMeasure final B pass k cs < fuel →
      (rwLoop rep final pass fuel k cs tests).2.2 = true ∧
      (rwLoop rep final pass fuel k cs tests).1 ≤ tests + (rwMeasure final B pass k cs + 1) * P ∧
      (rwLoop rep final pass fuel k cs tests).2.1 ≤ k + rwMeasure final B pass k cs + 1 := by
  intro fuel
  induction fuel with
  | zero => intro k cs tests h; omega
  | succ f ih =>
    intro k cs tests hm
    have hp := hP k
    -- another pass, in a state whose measure is smaller: one pass is paid for
    have hrec : ∀ cs', rwMeasure final B pass (k + 1) cs' + 1 ≤ rwMeasure final B pass k cs →
        (rwLoop rep final pass f (k + 1) cs' (tests + (pass k).1)).2.2 = true ∧
        (rwLoop rep final pass f (k + 1) cs' (tests + (pass k).1)).1
          ≤ tests + (rwMeasure final B pass k cs + 1) * P ∧
        (rwLoop rep final pass f (k + 1) cs' (tests + (pass k).1)).2.1
          ≤ k + rwMeasure final B pass k cs + 1 := by
      intro cs' hdec
      obtain ⟨i1, i2, i3⟩ := ih (k + 1) cs' (tests + (pass k).1) (by omega)
      exact ⟨i1, Nat.le_trans i2 (budget_step (Nat.add_le_add_left hp _) (Nat.succ_le_succ hdec)), by omega⟩
    unfold rwLoop
    simp only
    split
    · rename_i hrep
      exact hrec cs (rwMeasure_repeat cs hrep.1 (hB (k + 1)))
    · by_cases hlast : cs ≤ final
      · rw [if_pos (decide_eq_true hlast)]
        have : P ≤ (rwMeasure final B pass k cs + 1) * P := Nat.le_mul_of_pos_left P (by omega)
        exact ⟨rfl, by dsimp only; omega, by dsimp only; omega⟩
      · simp only [hlast, decide_false, Bool.false_eq_true, if_false]
        exact hrec (cs / 2) (rwMeasure_halve k hf hlast)

end Strat
