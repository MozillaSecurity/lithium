/-
What `rmslice` does (C07).  A well-formed testcase is its list of flagged atoms
`t.parts.zip t.reducible` between `before` and `after`; `rmslice` erases from that list the
reducible atoms whose rank lies in the clamped range.  The result is a sub-list that keeps every
non-reducible atom, and its list `R` of reducible atoms is the original's without the positions
`[s, e)`, `len` being the length of `R`.
-/
import LithiumModel.Testcase

namespace Testcase

/-- drop exactly the reducible entries whose rank (number of reducible entries before them,
starting at `r`) lies in `[a, b)` -/
def eraseRanks (a b : Nat) : Nat → List (Bytes × Bool) → List (Bytes × Bool)
  | _, [] => []
  | r, (p, false) :: t => (p, false) :: eraseRanks a b r t
  | r, (p, true) :: t =>
    if a ≤ r ∧ r < b then eraseRanks a b (r + 1) t else (p, true) :: eraseRanks a b (r + 1) t

theorem eraseRanks_append (a b r : Nat) (x y : List (Bytes × Bool)) :
    eraseRanks a b r (x ++ y) =
      eraseRanks a b r x ++ eraseRanks a b (r + (x.map (·.2)).count true) y := by
  induction x generalizing r with
  | nil => simp [eraseRanks]
  | cons e t ih =>
    obtain ⟨p, f⟩ := e
    cases f with
    | false => simp [eraseRanks, ih]
    | true =>
      simp only [List.cons_append, eraseRanks, ih, List.map_cons, List.count_cons_self]
      have : r + 1 + (t.map (·.2)).count true = r + ((t.map (·.2)).count true + 1) := by omega
      rw [this]
      split <;> simp

theorem eraseRanks_outside (a b r : Nat) (l : List (Bytes × Bool))
    (h : r + (l.map (·.2)).count true ≤ a ∨ b ≤ r) : eraseRanks a b r l = l := by
  induction l generalizing r with
  | nil => rfl
  | cons e t ih =>
    obtain ⟨p, f⟩ := e
    cases f with
    | false =>
      simp only [List.map_cons, List.count_cons] at h
      simp [eraseRanks, ih r (by simpa using h)]
    | true =>
      simp only [List.map_cons, List.count_cons_self] at h
      have : ¬ (a ≤ r ∧ r < b) := by omega
      simp [eraseRanks, this, ih (r + 1) (by omega)]

theorem eraseRanks_inside (a b r : Nat) (l : List (Bytes × Bool)) (ha : a ≤ r)
    (h : r + (l.map (·.2)).count true ≤ b) : eraseRanks a b r l = l.filter (fun x => !x.2) := by
  induction l generalizing r with
  | nil => rfl
  | cons e t ih =>
    obtain ⟨p, f⟩ := e
    cases f with
    | false =>
      simp only [List.map_cons, List.count_cons] at h
      simp [eraseRanks, ih r ha (by simpa using h)]
    | true =>
      simp only [List.map_cons, List.count_cons_self] at h
      have : a ≤ r ∧ r < b := by omega
      simp [eraseRanks, this, ih (r + 1) (by omega) (by omega)]

theorem eraseRanks_mid (x m y : List (Bytes × Bool)) :
    eraseRanks ((x.map (·.2)).count true) ((x.map (·.2)).count true + (m.map (·.2)).count true) 0
      (x ++ (m ++ y)) = x ++ (m.filter (fun x => !x.2) ++ y) := by
  rw [eraseRanks_append, eraseRanks_append, Nat.zero_add,
    eraseRanks_outside _ _ _ _ (.inl (by rw [Nat.zero_add]; exact Nat.le_refl _)),
    eraseRanks_inside _ _ _ _ (Nat.le_refl _) (Nat.le_refl _), eraseRanks_outside _ _ _ _ (.inr (Nat.le_refl _))]

/-- erasing a range of ranks is filtering a range of indices: the bridge to what `rmsliceRaw` does -/
theorem eraseRanks_slice (z : List (Bytes × Bool)) (s e : Nat) (hse : s ≤ e) :
    eraseRanks (((z.take s).map (·.2)).count true) (((z.take e).map (·.2)).count true) 0 z
      = z.take s ++ (((z.drop s).take (e - s)).filter (fun x => !x.2) ++ z.drop e) := by
  have hxm : z.take s ++ (z.drop s).take (e - s) = z.take e := by
    rw [← List.take_add, Nat.add_sub_cancel' hse]
  have hxmy : z.take s ++ ((z.drop s).take (e - s) ++ z.drop e) = z := by
    rw [← List.append_assoc, hxm, List.take_append_drop]
  rw [← eraseRanks_mid, hxmy, ← List.count_append, ← List.map_append, hxm]

theorem eraseRanks_sublist (a b r : Nat) (l : List (Bytes × Bool)) : (eraseRanks a b r l).Sublist l := by
  fun_induction eraseRanks a b r l with
  | case1 => exact .slnil
  | case2 _ _ _ ih => exact ih.cons_cons _
  | case3 _ _ _ _ ih => exact ih.cons _
  | case4 _ _ _ _ ih => exact ih.cons_cons _

theorem eraseRanks_filter (a b r : Nat) (l : List (Bytes × Bool)) :
    (eraseRanks a b r l).filter (fun x => !x.2) = l.filter (fun x => !x.2) := by
  fun_induction eraseRanks a b r l <;> simp_all

theorem eraseRanks_min (a b r n : Nat) (l : List (Bytes × Bool)) (h : r + (l.map (·.2)).count true ≤ n) :
    eraseRanks (min a n) (min b n) r l = eraseRanks a b r l := by
  induction l generalizing r with
  | nil => rfl
  | cons x t ih =>
    obtain ⟨p, f⟩ := x
    cases f with
    | false => simp only [eraseRanks, ih r (by simpa using h)]
    | true =>
      simp only [List.map_cons, List.count_cons_self] at h
      -- the rank `r` is below `n`, so clamping a bound at `n` does not move it across `r`
      have hr : r < n := by omega
      have h1 : min a n ≤ r ↔ a ≤ r := ⟨fun h' => by omega, Nat.le_trans (Nat.min_le_left a n)⟩
      have h2 : r < min b n ↔ r < b := Nat.lt_min.trans (and_iff_left hr)
      simp only [eraseRanks, h1, h2, ih (r + 1) (by omega)]

theorem count_true_add_false (l : List Bool) : l.count true + l.count false = l.length := by
  induction l with
  | nil => rfl
  | cons x t ih => cases x <;> simp <;> omega

theorem len_eq_count (t : Testcase) (h : t.WF) : t.len = t.reducible.count true := by
  unfold len; unfold WF at h
  have := count_true_add_false t.reducible
  omega

theorem positions_length (r : List Bool) : (positions r).length = r.count true := by
  induction r with
  | nil => rfl
  | cons x t ih => cases x <;> simp [positions, ih]

theorem positions_get (r : List Bool) (k : Nat) (hk : k < (positions r).length) :
    (positions r)[k] < r.length ∧ (r.take (positions r)[k]).count true = k := by
  induction r generalizing k with
  | nil => simp [positions] at hk
  | cons x t ih =>
    cases x with
    | false =>
      simp only [positions, List.length_map] at hk
      have := ih k hk
      simp only [positions, List.getElem_map, List.length_cons, List.take_succ_cons,
        Nat.add_lt_add_iff_right, ne_eq, Bool.false_eq_true, not_false_eq_true, List.count_cons_of_ne]
      exact this
    | true =>
      cases k with
      | zero => simp [positions]
      | succ k' =>
        simp only [positions, List.length_cons, List.length_map] at hk
        have := ih k' (by omega)
        simp only [positions, List.getElem_cons_succ, List.getElem_map, List.length_cons,
          List.take_succ_cons, Nat.add_lt_add_iff_right, List.count_cons_self, Nat.add_right_cancel_iff]
        exact this

/-- how `_slice_xlat` turns a rank into an index: entry `k ≤ len` of `opts` has exactly `k` reducible entries
before it (`k = len` is the sentinel `len(parts)`) -/
theorem opts_get (t : Testcase) (h : t.WF) (k : Nat) (hk : k ≤ t.len) :
    ∃ o, (opts t)[k]? = some o ∧ (t.reducible.take o).count true = k := by
  have hlen : (positions t.reducible).length = t.len := (positions_length _).trans (len_eq_count t h).symm
  cases k with
  | zero => exact ⟨0, rfl, rfl⟩
  | succ j =>
    show ∃ o, (0 :: ((positions t.reducible).tail ++ [t.parts.length]))[j + 1]? = some o ∧ _
    rw [List.getElem?_cons_succ]
    have htl : (positions t.reducible).tail.length + 1 = t.len := by
      rw [List.length_tail, hlen]
      exact Nat.sub_add_cancel (Nat.le_trans (Nat.le_add_left 1 j) hk)
    rcases Nat.lt_or_ge j (positions t.reducible).tail.length with hlt | hge
    · -- strictly inside: the k-th entry of `positions`
      have hg := positions_get t.reducible (j + 1) (by omega)
      refine ⟨_, ?_, hg.2⟩
      rw [List.getElem?_append_left hlt, List.getElem?_tail, List.getElem?_eq_getElem]
    · -- k = len: the final sentinel `len(parts)`
      have hj : j = (positions t.reducible).tail.length := by omega
      refine ⟨t.parts.length, ?_, ?_⟩
      · rw [hj, List.getElem?_append_right (Nat.le_refl _), Nat.sub_self]
        rfl
      · rw [h, List.take_length, ← len_eq_count t h, ← htl, hj]

/-- the shape in which `rmsliceRaw` rebuilds the kept middle segment -/
theorem filter_not_zip_falses (l : List (Bytes × Bool)) :
    ((l.filter (fun x => !x.2)).map (·.1)).zip
      (List.replicate ((l.filter (fun x => !x.2)).map (·.1)).length false)
      = l.filter (fun x => !x.2) := by
  induction l with
  | nil => rfl
  | cons e t ih =>
    obtain ⟨p, f⟩ := e
    cases f with
    | false => simpa [List.replicate_succ] using ih
    | true => simpa using ih

theorem rmsliceRaw_zip (t : Testcase) (h : t.WF) (s e : Nat) :
    (t.rmsliceRaw s e).WF ∧
    (t.rmsliceRaw s e).parts.zip (t.rmsliceRaw s e).reducible
      = (t.parts.zip t.reducible).take s ++
        ((((t.parts.zip t.reducible).drop s).take (e - s)).filter (fun x => !x.2) ++
          (t.parts.zip t.reducible).drop e) := by
  have hwf : t.parts.length = t.reducible.length := h
  refine ⟨?_, ?_⟩
  · simp only [WF, rmsliceRaw, List.length_append, List.length_take, List.length_drop,
      List.length_replicate, hwf]
  · simp only [rmsliceRaw]
    rw [List.append_assoc, List.append_assoc, List.zip_append (by simp [List.length_take, hwf]),
      List.zip_append (by simp)]
    -- `take` and `drop` commute with `zipWith`, which is how core states it for `zip`
    simp only [List.zip_eq_zipWith, List.take_zipWith, List.drop_zipWith]
    simp only [← List.zip_eq_zipWith, filter_not_zip_falses]

theorem clamp_le (n : Nat) (x : Option Int) (d : Nat) (hd : d ≤ n) : clamp n x d ≤ n := by
  cases x with
  | none => exact hd
  | some x =>
    simp only [clamp]
    split
    · omega
    · split <;> omega

theorem sliceXlat_spec (t : Testcase) (h : t.WF) (a b : Option Int) :
    ∃ s e, t.sliceXlat a b = some (s, e) ∧ (t.reducible.take s).count true = clamp t.len a 0 ∧
      (t.reducible.take e).count true = clamp t.len b t.len ∧
      (clamp t.len a 0 ≤ clamp t.len b t.len → s ≤ e) := by
  obtain ⟨s, hs, hsc⟩ := opts_get t h _ (clamp_le t.len a 0 (Nat.zero_le _))
  obtain ⟨e, he, hec⟩ := opts_get t h _ (clamp_le t.len b t.len (Nat.le_refl _))
  refine ⟨s, e, by simp only [sliceXlat, hs, he], hsc, hec, fun hab => ?_⟩
  -- the number of reducible entries before an index is monotone in the index
  rcases Nat.lt_or_ge e s with h1 | h2
  · have := (List.take_sublist_take_left (l := t.reducible) (Nat.le_of_lt h1)).count_le true
    rw [hec, hsc] at this
    rw [Nat.le_antisymm hab this, he] at hs
    exact Nat.le_of_eq (Option.some.inj hs).symm
  · exact h2

end Testcase

namespace Strat
open Testcase

/-- the reducible atoms of a list of flagged atoms, in order, without their flags -/
def ratoms (l : List (Bytes × Bool)) : List Bytes := (l.filter (·.2)).map (·.1)

theorem ratoms_true (p : Bytes) (l : List (Bytes × Bool)) : ratoms ((p, true) :: l) = p :: ratoms l := rfl

theorem ratoms_length (l : List (Bytes × Bool)) : (ratoms l).length = (l.map (·.2)).count true := by
  induction l with
  | nil => rfl
  | cons x t ih =>
    obtain ⟨p, f⟩ := x
    cases f <;> simp_all [ratoms]

theorem length_eq_fixed_add_ratoms (l : List (Bytes × Bool)) :
    l.length = (l.filter (fun x => !x.2)).length + (ratoms l).length := by
  induction l with
  | nil => rfl
  | cons x t ih =>
    obtain ⟨p, f⟩ := x
    cases f <;> simp_all [ratoms] <;> omega

theorem eraseRanks_ratoms_drop (a r k : Nat) (l : List (Bytes × Bool)) (ha : a ≤ r) :
    ratoms (eraseRanks a (r + k) r l) = (ratoms l).drop k := by
  induction l generalizing r k with
  | nil => simp [eraseRanks, ratoms]
  | cons x t ih =>
    obtain ⟨p, f⟩ := x
    cases f with
    | false => exact ih r k ha
    | true =>
      cases k with
      | zero => rw [Nat.add_zero, eraseRanks_outside _ _ _ _ (.inr (Nat.le_refl _))]; rfl
      | succ k =>
        simp only [eraseRanks]
        rw [if_pos ⟨ha, by omega⟩, ← Nat.add_assoc, Nat.add_right_comm]
        exact ih (r + 1) k (Nat.le_succ_of_le ha)

theorem eraseRanks_ratoms_add (r i k : Nat) (l : List (Bytes × Bool)) :
    ratoms (eraseRanks (r + i) (r + i + k) r l) = (ratoms l).take i ++ (ratoms l).drop (i + k) := by
  induction l generalizing r i with
  | nil => simp [eraseRanks, ratoms]
  | cons x t ih =>
    obtain ⟨p, f⟩ := x
    cases f with
    | false => exact ih r i
    | true =>
      cases i with
      | zero => simpa using eraseRanks_ratoms_drop r r k _ (Nat.le_refl _)
      | succ i =>
        simp only [eraseRanks]
        rw [if_neg (by omega), ratoms_true, ratoms_true, ← Nat.add_assoc, Nat.add_right_comm r i 1,
          ih (r + 1) i, Nat.add_right_comm i 1 k]
        rfl

theorem eraseRanks_ratoms (a b : Nat) (l : List (Bytes × Bool)) (hab : a ≤ b) :
    ratoms (eraseRanks a b 0 l) = (ratoms l).take a ++ (ratoms l).drop b := by
  obtain ⟨k, rfl⟩ := Nat.exists_eq_add_of_le hab
  simpa using eraseRanks_ratoms_add 0 a k l

/-- the reducible atoms of a testcase, in order: what chunk positions count -/
def R (t : Testcase) : List Bytes := ratoms (t.parts.zip t.reducible)

theorem zip_map_fst (t : Testcase) (h : t.WF) : (t.parts.zip t.reducible).map (·.1) = t.parts :=
  List.map_fst_zip (Nat.le_of_eq h)

theorem zip_map_snd (t : Testcase) (h : t.WF) : (t.parts.zip t.reducible).map (·.2) = t.reducible :=
  List.map_snd_zip (Nat.le_of_eq h.symm)

theorem R_length (t : Testcase) (h : t.WF) : (R t).length = t.len := by
  rw [R, ratoms_length, zip_map_snd t h, len_eq_count t h]

theorem R_sublist_parts (t : Testcase) (h : t.WF) : (R t).Sublist t.parts := by
  have h1 : ((t.parts.zip t.reducible).filter (·.2)).Sublist (t.parts.zip t.reducible) := List.filter_sublist
  have := h1.map (·.1)
  rw [zip_map_fst _ h] at this
  exact this

theorem mem_R_iff (t : Testcase) (p : Bytes) : p ∈ R t ↔ (p, true) ∈ t.parts.zip t.reducible := by
  unfold R ratoms
  simp only [List.mem_map, List.mem_filter]
  constructor
  · rintro ⟨⟨q, b⟩, ⟨hm, hb⟩, rfl⟩
    simp only at hb
    subst hb; exact hm
  · intro hm; exact ⟨(p, true), ⟨hm, rfl⟩, rfl⟩

theorem parts_length (t : Testcase) (h : t.WF) :
    t.parts.length = ((t.parts.zip t.reducible).filter (fun x => !x.2)).length + t.len := by
  have := length_eq_fixed_add_ratoms (t.parts.zip t.reducible)
  rw [← R, R_length t h, List.length_zip, ← h, Nat.min_self] at this
  exact this

end Strat

namespace Testcase
open Strat

theorem rmslice_spec (t : Testcase) (h : t.WF) (a b : Option Int)
    (hab : clamp t.len a 0 ≤ clamp t.len b t.len) :
    ∃ t', t.rmslice? a b = some t' ∧ t'.before = t.before ∧ t'.after = t.after ∧ t'.WF ∧
      t'.parts.zip t'.reducible
        = eraseRanks (clamp t.len a 0) (clamp t.len b t.len) 0 (t.parts.zip t.reducible) ∧
      t'.len = t.len - (clamp t.len b t.len - clamp t.len a 0) := by
  have hb := clamp_le t.len b t.len (Nat.le_refl _)
  obtain ⟨s, e, hx, hsc, hec, hmono⟩ := sliceXlat_spec t h a b
  have hraw : t.rmslice? a b = some (t.rmsliceRaw s e) := by simp only [rmslice?, hx]
  generalize clamp t.len a 0 = A at *
  generalize clamp t.len b t.len = B at *
  have hse := hmono hab
  obtain ⟨hwf', hz⟩ := rmsliceRaw_zip t h s e
  have hzz : (t.rmsliceRaw s e).parts.zip (t.rmsliceRaw s e).reducible
      = eraseRanks A B 0 (t.parts.zip t.reducible) := by
    rw [hz, ← eraseRanks_slice _ s e hse, List.map_take, List.map_take, zip_map_snd t h, hsc, hec]
  refine ⟨_, hraw, rfl, rfl, hwf', hzz, ?_⟩
  -- the length is that of the list of reducible atoms
  have := congrArg (fun l => (ratoms l).length) hzz
  simp only [eraseRanks_ratoms _ _ _ hab, List.length_append, List.length_take, List.length_drop] at this
  rw [← R, ← R, R_length _ hwf', R_length t h, Nat.min_eq_left (Nat.le_trans hab hb)] at this
  rw [this, Nat.sub_sub_right _ hab, Nat.add_comm, Nat.sub_add_comm hb]

end Testcase

namespace Strat
open Testcase

theorem clamp_natCast (n a d : Nat) : clamp n (some (a : Int)) d = min a n := by
  simp only [clamp]
  rw [if_neg (by omega)]
  split <;> omega

theorem rmslice_frame (t : Testcase) (s e : Int) :
    (t.rmslice s e).before = t.before ∧ (t.rmslice s e).after = t.after := by
  unfold Testcase.rmslice Testcase.rmslice?
  cases t.sliceXlat (some s) (some e) with
  | none => exact ⟨rfl, rfl⟩
  | some p => exact ⟨rfl, rfl⟩

/-- the form the strategies use: `Int` bounds `0 ≤ s ≤ e` and no `e ≤ len`, the clamping at `len` being absorbed
by `eraseRanks_min` -/
theorem rmslice_erase (t : Testcase) (h : t.WF) (s e : Int) (h0 : 0 ≤ s) (hse : s ≤ e) :
    (t.rmslice s e).WF ∧
    (t.rmslice s e).parts.zip (t.rmslice s e).reducible
      = eraseRanks s.toNat e.toNat 0 (t.parts.zip t.reducible) := by
  obtain ⟨a, rfl⟩ := Int.eq_ofNat_of_zero_le h0
  obtain ⟨b, rfl⟩ := Int.eq_ofNat_of_zero_le (Int.le_trans h0 hse)
  have hcs := clamp_natCast t.len a 0
  have hce := clamp_natCast t.len b t.len
  obtain ⟨t', e1, -, -, c1, c4, -⟩ := rmslice_spec t h (some a) (some b) (by rw [hcs, hce]; omega)
  have : t.rmslice a b = t' := by simp [rmslice, e1]
  rw [this, c4, hcs, hce]
  refine ⟨c1, eraseRanks_min _ _ _ _ _ ?_⟩
  rw [zip_map_snd t h, len_eq_count t h]
  exact Nat.le_of_eq (Nat.zero_add _)

variable {t : Testcase} {s e : Int}

theorem R_rmslice' (h : t.WF) (h0 : 0 ≤ s) (hse : s ≤ e) :
    R (t.rmslice s e) = (R t).take s.toNat ++ (R t).drop e.toNat := by
  rw [R, (rmslice_erase t h s e h0 hse).2, eraseRanks_ratoms _ _ _ (Int.toNat_le_toNat hse), R]

/-- over `Int`, so that a caller's `omega` meets neither `toNat` nor a truncated subtraction; the
next three are its cases -/
theorem rmslice_len (h : t.WF) (h0 : 0 ≤ s) (hse : s ≤ e) :
    ((t.rmslice s e).len : Int) = t.len - (min e t.len - min s t.len) := by
  have := congrArg List.length (R_rmslice' h h0 hse)
  rw [R_length _ (rmslice_erase t h s e h0 hse).1, List.length_append, List.length_take, List.length_drop,
    R_length t h] at this
  obtain ⟨a, rfl⟩ := Int.eq_ofNat_of_zero_le h0
  obtain ⟨b, rfl⟩ := Int.eq_ofNat_of_zero_le (Int.le_trans h0 hse)
  rw [Int.toNat_natCast, Int.toNat_natCast] at this
  omega

theorem rmslice_len_of_le (h : t.WF) (h0 : 0 ≤ s) (hse : s ≤ e) (hel : e ≤ t.len) :
    ((t.rmslice s e).len : Int) = t.len - (e - s) := by
  have := rmslice_len h h0 hse
  rwa [Int.min_eq_left hel, Int.min_eq_left (Int.le_trans hse hel)] at this

theorem rmslice_len_le (h : t.WF) (h0 : 0 ≤ s) (hse : s ≤ e) : (t.rmslice s e).len ≤ t.len := by
  have := rmslice_len h h0 hse
  have hm : min s t.len ≤ min e t.len :=
    Int.le_min.2 ⟨Int.le_trans (Int.min_le_left _ _) hse, Int.min_le_right _ _⟩
  omega

theorem rmslice_len_lt (h : t.WF) (h0 : 0 ≤ s) (hse : s < e) (hs : s < t.len) :
    (t.rmslice s e).len < t.len := by
  have := rmslice_len h h0 (Int.le_of_lt hse)
  omega

theorem rmslice_zero_content (t : Testcase) (h : t.WF) : (t.rmslice 0 0).content = t.content := by
  obtain ⟨c2, c3⟩ := rmslice_frame t 0 0
  obtain ⟨c1, c4⟩ := rmslice_erase t h 0 0 (Int.le_refl 0) (Int.le_refl 0)
  rw [Int.toNat_zero, eraseRanks_outside _ _ _ _ (.inr (Nat.le_refl _))] at c4
  have hp := congrArg (List.map (·.1)) c4
  rw [zip_map_fst _ c1, zip_map_fst _ h] at hp
  unfold content
  rw [c2, c3, hp]

end Strat
