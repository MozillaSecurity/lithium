/-
Attribute atoms are not continued (C16): behind a reducible atom that does not end with a quoted value the
file goes on with white space or `>`, so an unquoted value or a value-less name is never cut short.
-/
import LithiumProofs.SplitAttrsTag

namespace Attrs
open Strat (isWs)

theorem step_form (s s' : St) (hs : step s = some s') :
    (s'.parts = s.parts ∧ s'.red = s.red ∧ s'.data = s.data) ∨
    ∃ p r, s'.parts = s.parts ++ [p] ∧ s'.red = s.red ++ [r] ∧ (r = true → QuotedEnd p ∨ HeadTerm s'.data) :=
  match step_sound hs with
  | .leave => .inl ⟨rfl, rfl, rfl⟩
  | .text p .. | .opener p .. | .skip p .. => .inr ⟨p, false, rfl, rfl, nofun⟩
  | .attr p _ _ _ _ hq => .inr ⟨p, true, rfl, rfl, fun _ => hq⟩

def NotContinued (l : List (Bytes × Bool)) : Prop :=
  ∀ l1 a b r l2, l = l1 ++ (a, true) :: (b, r) :: l2 → QuotedEnd a ∨ HeadTerm b

structure NextInv (s : St) : Prop where
  nc : NotContinued (s.parts.zip s.red)
  /-- a flagged last part without a quoted value is followed, in the data still to be split, by white space or `>` -/
  pend : ∀ l1 a, s.parts.zip s.red = l1 ++ [(a, true)] → QuotedEnd a ∨ HeadTerm s.data

theorem nextInv_init (d : Bytes) : NextInv { data := d, inTag := false, parts := [], red := [] } :=
  ⟨by intro l1 a b r l2 he; simp at he, by intro l1 a he; simp at he⟩

theorem headTerm_prefix (p rest : Bytes) (hp : p ≠ []) (h : HeadTerm (p ++ rest)) : HeadTerm p := by
  obtain ⟨c, r, e, hc⟩ := h
  cases p with
  | nil => exact absurd rfl hp
  | cons x xs =>
    cases e
    exact ⟨_, xs, rfl, hc⟩

theorem next_snoc (l : List (Bytes × Bool)) (p rest : Bytes) (r : Bool) (hnc : NotContinued l)
    (hpend : ∀ l1 a, l = l1 ++ [(a, true)] → QuotedEnd a ∨ HeadTerm (p ++ rest)) (hp : p ≠ []) :
    NotContinued (l ++ [(p, r)]) := by
  intro l1 a b r' l2 he
  rcases List.eq_nil_or_concat l2 with rfl | ⟨l2', z, rfl⟩
  · -- the new part follows the last old one
    rw [← List.singleton_append (l := [_]), ← List.append_assoc] at he
    obtain ⟨rfl, e2⟩ := List.append_inj' he rfl
    cases e2
    exact (hpend l1 a rfl).imp_right (headTerm_prefix p rest hp)
  · rw [List.concat_eq_append, ← List.cons_append, ← List.cons_append, ← List.append_assoc] at he
    exact hnc l1 a b r' l2' (List.append_inj' he rfl).1

theorem nextInv_push {s : St} (h : NextInv s) (hl : s.parts.length = s.red.length) (b : Bool) {p rest : Bytes}
    {r : Bool} (hc : p ++ rest = s.data) (hp : p ≠ []) (hr : r = true → QuotedEnd p ∨ HeadTerm rest) :
    NextInv (push { s with inTag := b } p r rest) := by
  refine ⟨zip_push s b p rest r hl ▸ next_snoc _ p rest r h.nc (hc ▸ h.pend) hp, fun l1 a ha => ?_⟩
  rw [zip_push s b p rest r hl] at ha
  cases (List.append_inj' ha rfl).2
  exact hr rfl

theorem nextInv_step {s s' : St} (h : NextInv s) (hl : s.parts.length = s.red.length) : Step s s' → NextInv s'
  | .leave => ⟨h.nc, h.pend⟩
  | .text _ _ hc hp => nextInv_push h hl _ hc hp nofun
  | .opener _ _ hc ho => nextInv_push h hl _ hc ho.ne_nil nofun
  | .skip _ _ hc hp _ _ => nextInv_push h hl _ hc hp nofun
  | .attr _ _ hc _ ha hq => nextInv_push h hl _ hc ha.ne_nil fun _ => hq

structure Good (orig : Bytes) (s : St) : Prop where
  inv : Inv orig s
  tag : TagInv s
  next : NextInv s

theorem splitAttrs_good (d : Bytes) :
    ∃ s, Good d s ∧ s.data = [] ∧ splitAttrs d = .ok { parts := s.parts, reducible := s.red } :=
  splitAttrs_ind d ⟨inv_init d, tagInv_init d, nextInv_init d⟩
    fun _ _ h st => ⟨inv_step h.inv st, tagInv_step h.tag h.inv.len st, nextInv_step h.next h.inv.len st⟩

theorem getElem?_succ_split {α} {l : List α} {i : Nat} {x y : α} (h1 : l[i]? = some x) (h2 : l[i + 1]? = some y) :
    ∃ l1 l2, l = l1 ++ x :: y :: l2 := by
  obtain ⟨hi1, rfl⟩ := List.getElem?_eq_some_iff.mp h1
  obtain ⟨hi2, rfl⟩ := List.getElem?_eq_some_iff.mp h2
  exact ⟨l.take i, l.drop (i + 1 + 1), by
    rw [← List.drop_eq_getElem_cons hi2, ← List.drop_eq_getElem_cons hi1, List.take_append_drop]⟩

theorem good_of_splitAttrs {d : Bytes} {sp : Load.Split} (h : splitAttrs d = .ok sp) :
    ∃ s, Good d s ∧ sp = { parts := s.parts, reducible := s.red } := by
  obtain ⟨s, hg, -, he⟩ := splitAttrs_good d
  exact ⟨s, hg, Except.ok.inj (h.symm.trans he)⟩

end Attrs
