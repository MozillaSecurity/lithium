/-
Attribute atoms lie inside a tag (C16): before each one stands a part that ends with a tag opener, with
only other attributes and text without `>` in between.
-/
import LithiumProofs.SplitAttrs

namespace Attrs
open Strat (isWs)

/-- between a tag opener and one of its attributes: attributes, and unflagged text without `>` -/
def MidOK (mid : List (Bytes × Bool)) : Prop :=
  ∀ x ∈ mid, (x.2 = true ∧ IsAttr x.1) ∨ (x.2 = false ∧ ∀ b ∈ x.1, b ≠ 0x3E)

/-- the list ends inside a tag -/
def Open (l : List (Bytes × Bool)) : Prop :=
  ∃ l0 o mid, l = l0 ++ (o, false) :: mid ∧ IsTagOpen o ∧ MidOK mid

/-- Every part flagged reducible is a complete attribute, and the parts before it end inside a tag. -/
def AttrsInTag (l : List (Bytes × Bool)) : Prop :=
  ∀ l1 a l2, l = l1 ++ (a, true) :: l2 → Open l1 ∧ IsAttr a

def Shape (s : St) : Prop := ∀ x ∈ s.parts.zip s.red, x.2 = true → IsAttr x.1

theorem shape_flag (s : St) (b : Bool) (h : Shape s) : Shape { s with inTag := b } := h

theorem AttrsInTag.shape {s : St} (h : AttrsInTag (s.parts.zip s.red)) : Shape s := by
  intro (a, r) hx hr
  obtain ⟨l1, l2, e⟩ := List.append_of_mem hx
  cases hr
  exact (h l1 a l2 e).2

theorem attrsInTag_snoc (l : List (Bytes × Bool)) (p : Bytes) (r : Bool) (h : AttrsInTag l)
    (hr : r = true → Open l ∧ IsAttr p) : AttrsInTag (l ++ [(p, r)]) := by
  intro l1 a l2 he
  rcases List.eq_nil_or_concat l2 with rfl | ⟨l2', z, rfl⟩
  · -- the atom is the new last element
    obtain ⟨rfl, e2⟩ := List.append_inj' he rfl
    cases e2
    exact hr rfl
  · rw [List.concat_eq_append, ← List.cons_append, ← List.append_assoc] at he
    exact h l1 a l2' (List.append_inj' he rfl).1

theorem open_snoc (l : List (Bytes × Bool)) (p : Bytes) (r : Bool) (h : Open l)
    (hp : (r = true ∧ IsAttr p) ∨ (r = false ∧ ∀ b ∈ p, b ≠ 0x3E)) : Open (l ++ [(p, r)]) := by
  obtain ⟨l0, o, mid, rfl, ho, hm⟩ := h
  refine ⟨l0, o, mid ++ [(p, r)], by simp, ho, ?_⟩
  intro x hx
  rcases List.mem_append.mp hx with hx | hx
  · exact hm x hx
  · cases List.mem_singleton.mp hx
    exact hp

theorem zip_push (s : St) (b : Bool) (p rest : Bytes) (r : Bool) (hl : s.parts.length = s.red.length) :
    (push { s with inTag := b } p r rest).parts.zip (push { s with inTag := b } p r rest).red
      = s.parts.zip s.red ++ [(p, r)] :=
  List.zip_append hl

structure TagInv (s : St) : Prop where
  ok : AttrsInTag (s.parts.zip s.red)
  op : s.inTag = true → Open (s.parts.zip s.red)

theorem tagInv_init (d : Bytes) : TagInv { data := d, inTag := false, parts := [], red := [] } :=
  ⟨by intro l1 a l2 he; simp at he, nofun⟩

theorem tagInv_push {s : St} (h : TagInv s) (hl : s.parts.length = s.red.length) {p : Bytes} {r b : Bool} (rest : Bytes)
    (hr : r = true → Open (s.parts.zip s.red) ∧ IsAttr p)
    (hb : b = true → Open (s.parts.zip s.red ++ [(p, r)])) : TagInv (push { s with inTag := b } p r rest) :=
  ⟨zip_push s b p rest r hl ▸ attrsInTag_snoc _ p r h.ok hr, fun hbt => zip_push s b p rest r hl ▸ hb hbt⟩

theorem tagInv_step {s s' : St} (h : TagInv s) (hl : s.parts.length = s.red.length) : Step s s' → TagInv s'
  | .leave => ⟨h.ok, nofun⟩
  | .text _ rest _ _ => tagInv_push h hl rest nofun nofun
  | .opener p rest _ ho => tagInv_push h hl rest nofun fun _ => ⟨_, p, [], rfl, ho, nofun⟩
  | .skip p rest _ _ hin hgt => tagInv_push h hl rest nofun fun _ => open_snoc _ p false (h.op hin) (.inr ⟨rfl, hgt⟩)
  | .attr p rest _ hin ha _ =>
    tagInv_push h hl rest (fun _ => ⟨h.op hin, ha⟩) fun _ => open_snoc _ p true (h.op hin) (.inl ⟨rfl, ha⟩)

end Attrs
