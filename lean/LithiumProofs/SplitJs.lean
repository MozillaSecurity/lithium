/-
The JS-string splitter loop by loop: what one step of `scan`, a successful step of `outer` and a successful
`splitJs` are, and that scanning keeps `parts ++ rest` the input.
-/
import LithiumModel.SplitJs

namespace Js

/-- What one iteration of the scanner does with the state `m` and the data `d`: stop (`none`), or cut `d.take k` off as
the next part, go on in state `m'`, and (`b`) record the part as a string character. -/
def scanStep (m : Option UInt8) (d : Bytes) : Option (Nat × Option UInt8 × Bool) :=
  match m with
  | some q =>
    if tokLen d = 0 then none
    else if d.take (tokLen d) == [q] then some (tokLen d, none, false)
    else some (tokLen d, some q, true)
  | none =>
    match d.findIdx? isQuote with
    | none => none
    | some i => some (i + 1, d[i]?, false)

theorem scan_succ (f : Nat) (s : Scan) :
    scan (f + 1) s = match scanStep s.instr s.rest with
      | none => s
      | some (k, m, b) =>
        scan f { rest := s.rest.drop k, instr := m, chars := if b then s.chars ++ [s.parts.length] else s.chars,
                 parts := s.parts ++ [s.rest.take k] } := by
  obtain ⟨rest, instr, chars, parts⟩ := s
  cases instr with
  | some q =>
    simp only [scan, scanStep]
    by_cases h0 : tokLen rest = 0
    · rw [if_pos h0, if_pos h0]
    · rw [if_neg h0, if_neg h0]
      by_cases hq : (rest.take (tokLen rest) == [q]) = true
      · rw [if_pos hq, if_pos hq]
        rfl
      · rw [if_neg hq, if_neg hq]
        rfl
  | none =>
    simp only [scan, scanStep]
    cases rest.findIdx? isQuote <;> rfl

theorem scan_cat (fuel : Nat) (s : Scan) : (scan fuel s).parts.flatten ++ (scan fuel s).rest = s.parts.flatten ++ s.rest := by
  induction fuel generalizing s with
  | zero => rfl
  | succ f ih =>
    rw [scan_succ]
    split
    · rfl
    · rw [ih]
      simp [List.take_append_drop]

/-- `s` and `P` are the caller's names for the scan and its parts, so that it can generalise them first. -/
theorem outer_succ_ok {f : Nat} {data : Bytes} {chars : List Nat} {parts : List Bytes} {cs : List Nat}
    {ps : List Bytes} {s : Scan} {P : List Bytes}
    (hs : scan (data.length + 1) { rest := data, instr := none, chars := chars, parts := parts } = s)
    (hP : (if s.rest.isEmpty then s.parts else s.parts ++ [s.rest]) = P)
    (h : outer (f + 1) data chars parts = .ok (cs, ps)) :
    (s.instr = none ∧ cs = s.chars ∧ ps = P) ∨
    ∃ q idx, s.instr = some q ∧ rewindIdx P s.chars q = some idx ∧
      outer f (P.drop (idx + 1)).flatten (s.chars.filter (· < idx)) (P.take (idx + 1)) = .ok (cs, ps) := by
  subst hs hP
  unfold outer at h
  simp only at h
  split at h
  · rename_i hi
    injection h with h
    injection h with h1 h2
    exact .inl ⟨hi, h1.symm, h2.symm⟩
  · rename_i q hi
    split at h
    · exact absurd h (by simp)
    · rename_i idx hidx
      exact .inr ⟨q, idx, hi, hidx, h⟩

theorem outer_cat (fuel : Nat) (data : Bytes) (chars : List Nat) (parts : List Bytes) (cs : List Nat) (ps : List Bytes)
    (h : outer fuel data chars parts = .ok (cs, ps)) : ps.flatten = parts.flatten ++ data := by
  induction fuel generalizing data chars parts with
  | zero => simp [outer] at h
  | succ f ih =>
    have hscan := scan_cat (data.length + 1) { rest := data, instr := none, chars := chars, parts := parts }
    generalize hs : scan (data.length + 1) { rest := data, instr := none, chars := chars, parts := parts } = s at hscan
    simp only at hscan
    have hparts : (if s.rest.isEmpty then s.parts else s.parts ++ [s.rest]).flatten = parts.flatten ++ data := by
      split
      · rename_i he
        have : s.rest = [] := by simpa using he
        rw [this] at hscan
        simpa using hscan
      · simpa using hscan
    generalize hP : (if s.rest.isEmpty then s.parts else s.parts ++ [s.rest]) = P at hparts
    rcases outer_succ_ok hs hP h with ⟨-, -, rfl⟩ | ⟨q, idx, -, -, h'⟩
    · exact hparts
    · rw [ih _ _ _ h', ← hparts, ← List.flatten_append, List.take_append_drop]

theorem mergeLoop_len (fuel i : Nat) (parts : List Bytes) (chars : List Nat) : True := trivial

theorem splitJs_ok_cases (d : Bytes) (s : Load.Split) (h : splitJs d = .ok s) :
    ∃ chars parts, outer (d.length + 2) d [] [] = .ok (chars, parts) ∧
      ((chars = [] ∧ s = { parts := parts, reducible := List.replicate parts.length false }) ∨
       ∃ c0 rest C off m, chars = c0 :: rest ∧ C = chars.map (· - c0) ∧ off = C.getLast?.getD 0 + 1 ∧
         m = mergeLoop C.length 0 ((parts.drop c0).take off) C ∧
         s = { header := (parts.take c0).flatten, parts := m.1,
               reducible := (List.range m.1.length).map (fun i => m.2.contains i),
               footer := ((parts.drop c0).drop off).flatten }) := by
  unfold splitJs at h
  cases ho : outer (d.length + 2) d [] [] with
  | error e =>
    rw [ho] at h
    simp at h
  | ok r =>
    obtain ⟨chars, parts⟩ := r
    rw [ho] at h
    refine ⟨chars, parts, rfl, ?_⟩
    cases chars with
    | nil =>
      simp only [Except.ok.injEq] at h
      exact .inl ⟨rfl, h.symm⟩
    | cons c0 rest =>
      simp only [Except.ok.injEq] at h
      exact .inr ⟨c0, rest, _, _, _, rfl, rfl, rfl, rfl, h.symm⟩

end Js
