/-
`splitJs` meets the splitter contract (C06): the parts are the input and none is empty, by the invariant that `chars`
is strictly increasing and indexes existing parts, kept through the scan, the back-tracking, the header/footer cut and
the gap merge.  The gap merge is analysed here; SplitJsSpec.lean builds on that.
-/
import LithiumProofs.SplitJs
import LithiumProofs.SplitJsTok
import LithiumProofs.Load

namespace Js

def NE (parts : List Bytes) : Prop := ∀ p ∈ parts, p ≠ []

/-- `chars` is strictly increasing and every entry indexes a part -/
def Valid (chars : List Nat) (n : Nat) : Prop := chars.Pairwise (· < ·) ∧ ∀ c ∈ chars, c < n

theorem ne_nil : NE [] := nofun

theorem valid_nil (n : Nat) : Valid [] n := ⟨.nil, nofun⟩

theorem ne_push (P : List Bytes) (p : Bytes) (h : NE P) (hp : p ≠ []) : NE (P ++ [p]) := by
  intro x hx
  rcases List.mem_append.mp hx with hx | hx
  · exact h x hx
  · rw [List.mem_singleton.mp hx]
    exact hp

theorem valid_push (C : List Nat) (P : List Bytes) (p : Bytes) (h : Valid C P.length) : Valid C (P ++ [p]).length := by
  rw [List.length_append]
  exact ⟨h.1, fun c hc => Nat.lt_add_right _ (h.2 c hc)⟩

theorem valid_push_char (C : List Nat) (P : List Bytes) (p : Bytes) (h : Valid C P.length) :
    Valid (C ++ [P.length]) (P ++ [p]).length := by
  rw [List.length_append]
  refine ⟨List.pairwise_append.mpr ⟨h.1, List.pairwise_singleton _ _, ?_⟩, ?_⟩
  · intro a ha b hb
    rw [List.mem_singleton.mp hb]
    exact h.2 a ha
  · intro c hc
    rcases List.mem_append.mp hc with h1 | h1
    · exact Nat.lt_add_right _ (h.2 c h1)
    · rw [List.mem_singleton.mp h1]
      exact Nat.lt_succ_self _

theorem scanStep_ne {m m' : Option UInt8} {d : Bytes} {k : Nat} {b : Bool} (h : scanStep m d = some (k, m', b)) :
    d.take k ≠ [] := by
  unfold scanStep at h
  cases m with
  | some q =>
    simp only at h
    by_cases h0 : tokLen d = 0
    · rw [if_pos h0] at h
      cases h
    · rw [if_neg h0] at h
      have hk : k = tokLen d := by
        split at h <;> cases h <;> rfl
      rw [hk]
      exact fun e => (List.take_eq_nil_iff.mp e).elim h0 (mt (tokLen_eq_zero_iff d).mpr h0)
  | none =>
    cases hi : d.findIdx? isQuote with
    | none =>
      rw [hi] at h
      cases h
    | some i =>
      rw [hi] at h
      cases h
      have hlt : i < d.length := (List.findIdx?_eq_some_iff_getElem.mp hi).1
      exact fun e => (List.take_eq_nil_iff.mp e).elim (Nat.succ_ne_zero i)
        (List.ne_nil_of_length_pos (Nat.zero_lt_of_lt hlt))

theorem scan_inv (fuel : Nat) (s : Scan) (hne : NE s.parts) (hv : Valid s.chars s.parts.length) :
    NE (scan fuel s).parts ∧ Valid (scan fuel s).chars (scan fuel s).parts.length := by
  induction fuel generalizing s with
  | zero => exact ⟨hne, hv⟩
  | succ f ih =>
    rw [scan_succ]
    split
    · exact ⟨hne, hv⟩
    · rename_i k m b hst
      have hp := ne_push _ _ hne (scanStep_ne hst)
      cases b
      · exact ih _ hp (valid_push _ _ _ hv)
      · exact ih _ hp (valid_push_char _ _ _ hv)

theorem rewindIdx_lt (parts : List Bytes) (chars : List Nat) (q : UInt8) (idx : Nat)
    (h : rewindIdx parts chars q = some idx) : idx < parts.length := by
  unfold rewindIdx at h
  simp only [Option.map_eq_some_iff] at h
  obtain ⟨x, hx, rfl⟩ := h
  have hm := List.mem_of_getLast? hx
  have := (List.mem_filter.mp hm).1
  have := List.snd_lt_of_mem_zipIdx this
  omega

theorem ne_take (parts : List Bytes) (k : Nat) (h : NE parts) : NE (parts.take k) :=
  fun p hp => h p (List.mem_of_mem_take hp)

theorem ne_drop (parts : List Bytes) (k : Nat) (h : NE parts) : NE (parts.drop k) :=
  fun p hp => h p (List.mem_of_mem_drop hp)

/-- `if last != len(data): self.parts.append(data[last:])` behind the scan -/
theorem scan_end_inv (s : Scan) (hne : NE s.parts) (hv : Valid s.chars s.parts.length) :
    NE (if s.rest.isEmpty then s.parts else s.parts ++ [s.rest]) ∧
    Valid s.chars (if s.rest.isEmpty then s.parts else s.parts ++ [s.rest]).length := by
  split
  · exact ⟨hne, hv⟩
  · rename_i he
    exact ⟨ne_push _ _ hne (by intro h0; rw [h0] at he; simp at he), valid_push _ _ _ hv⟩

theorem valid_rewind (chars : List Nat) (parts : List Bytes) (idx : Nat) (hv : Valid chars parts.length) :
    Valid (chars.filter (· < idx)) (parts.take (idx + 1)).length := by
  refine ⟨hv.1.filter _, ?_⟩
  intro c hc
  obtain ⟨hm, hlt⟩ := List.mem_filter.mp hc
  have := hv.2 c hm
  simp only [decide_eq_true_eq] at hlt
  rw [List.length_take]
  omega

theorem outer_inv (fuel : Nat) (data : Bytes) (chars : List Nat) (parts : List Bytes) (cs : List Nat) (ps : List Bytes)
    (hne : NE parts) (hv : Valid chars parts.length) (h : outer fuel data chars parts = .ok (cs, ps)) :
    NE ps ∧ Valid cs ps.length := by
  induction fuel generalizing data chars parts with
  | zero => simp [outer] at h
  | succ f ih =>
    obtain ⟨sne, sv⟩ := scan_inv (data.length + 1) { rest := data, instr := none, chars := chars, parts := parts } hne hv
    generalize hs : scan (data.length + 1) { rest := data, instr := none, chars := chars, parts := parts } = s at sne sv
    have hparts := scan_end_inv s sne sv
    generalize hP : (if s.rest.isEmpty then s.parts else s.parts ++ [s.rest]) = P at hparts
    rcases outer_succ_ok hs hP h with ⟨-, rfl, rfl⟩ | ⟨q, idx, -, -, h'⟩
    · exact hparts
    · exact ih _ _ _ (ne_take _ _ hparts.1) (valid_rewind _ _ _ hparts.2) h'

theorem sorted_mono {l : List Nat} (hp : l.Pairwise (· < ·)) {i j : Nat} (hij : i ≤ j) (hj : j < l.length) :
    l[i] ≤ l[j] := by
  rcases Nat.lt_or_eq_of_le hij with h | rfl
  · exact Nat.le_of_lt (List.pairwise_iff_getElem.mp hp i j (by omega) hj h)
  · exact Nat.le_refl _

theorem sorted_around (l : List Nat) (hp : l.Pairwise (· < ·)) (i : Nat) (hi : i + 1 < l.length) :
    (∀ x ∈ l.take (i + 1), x ≤ l.getD i 0) ∧ (∀ y ∈ l.drop (i + 1), l.getD (i + 1) 0 ≤ y) := by
  rw [← List.getElem_eq_getD (h := Nat.lt_of_succ_lt hi), ← List.getElem_eq_getD (h := hi)]
  refine ⟨?_, ?_⟩
  · intro x hx
    obtain ⟨k, hk, rfl⟩ := List.mem_iff_getElem.mp hx
    rw [List.length_take] at hk
    rw [List.getElem_take]
    exact sorted_mono hp (by omega) _
  · intro y hy
    obtain ⟨k, hk, rfl⟩ := List.mem_iff_getElem.mp hy
    rw [List.getElem_drop]
    exact sorted_mono hp (Nat.le_add_right _ _) _

theorem map_sub_add (l : List Nat) (n : Nat) (h : ∀ y ∈ l, n ≤ y) : (l.map (· - n)).map (· + n) = l := by
  rw [List.map_map]
  conv => rhs; rw [← List.map_id l]
  apply List.map_congr_left
  intro y hy
  exact Nat.sub_add_cancel (h y hy)

/-! `A ++ M ++ B` are the parts; `a` indexes into `A`, `b` into `B` counted from its start, so gluing the gap `M` to one
part only moves that start from `A.length + M.length` to `A.length + 1`. -/

theorem ne_merge (A M B : List Bytes) (hM : M ≠ []) (h : NE (A ++ M ++ B)) : NE (A ++ [M.flatten] ++ B) := by
  intro p hp
  simp only [List.mem_append, List.mem_singleton] at hp
  rcases hp with (hp | rfl) | hp
  · exact h p (by simp [hp])
  · obtain ⟨m, t, rfl⟩ := List.exists_cons_of_ne_nil hM
    have := h m (by simp)
    simp [this]
  · exact h p (by simp [hp])

theorem valid_merge (A M B : List Bytes) (a b : List Nat) (ha : ∀ x ∈ a, x < A.length)
    (hv : Valid (a ++ b.map (· + (A.length + M.length))) (A ++ M ++ B).length) :
    Valid (a ++ b.map (· + (A.length + 1))) (A ++ [M.flatten] ++ B).length := by
  obtain ⟨hs, hlt⟩ := hv
  rw [List.pairwise_append, List.pairwise_map] at hs
  simp only [List.length_append, List.length_cons, List.length_nil] at hlt ⊢
  refine ⟨?_, ?_⟩
  · rw [List.pairwise_append, List.pairwise_map]
    refine ⟨hs.1, hs.2.1.imp (fun h => by omega), ?_⟩
    intro x hx y hy
    obtain ⟨z, -, rfl⟩ := List.mem_map.mp hy
    have := ha x hx
    omega
  · intro c hc
    rcases List.mem_append.mp hc with h | h
    · have := ha c h
      omega
    · obtain ⟨z, hz, rfl⟩ := List.mem_map.mp h
      have := hlt _ (List.mem_append_right _ (List.mem_map_of_mem hz))
      omega

theorem mergeLoop_step (f i : Nat) (parts : List Bytes) (chars : List Nat) (hv : Valid chars parts.length) :
    mergeLoop (f + 1) i parts chars = (parts, chars) ∨
    mergeLoop (f + 1) i parts chars = mergeLoop f (i + 1) parts chars ∨
    ∃ (A M B : List Bytes) (a b : List Nat), parts = A ++ M ++ B ∧
      chars = a ++ b.map (· + (A.length + M.length)) ∧ M ≠ [] ∧
      (∀ x ∈ a, x < A.length) ∧
      mergeLoop (f + 1) i parts chars
        = mergeLoop f (i + 1) (A ++ [M.flatten] ++ B) (a ++ b.map (· + (A.length + 1))) := by
  rw [mergeLoop]
  by_cases hi : i + 1 < chars.length
  · obtain ⟨hle, hge⟩ := sorted_around chars hv.1 i hi
    have h2n : chars.getD (i + 1) 0 < parts.length := by
      rw [← List.getElem_eq_getD (h := hi)]
      exact hv.2 _ (List.getElem_mem hi)
    simp only [if_pos hi]
    generalize chars.getD i 0 = c1 at *
    generalize chars.getD (i + 1) 0 = c2 at *
    by_cases hgap : c2 - c1 > 2
    · -- the gap has `g + 2` parts
      obtain ⟨g, rfl⟩ : ∃ g, c2 = c1 + 1 + (g + 2) := ⟨c2 - c1 - 3, by omega⟩
      have e1 : c1 + 1 + (g + 2) - c1 - 1 = g + 2 := by omega
      have e2 : c1 + 1 + (g + 2) - c1 - 2 = g + 1 := by omega
      rw [if_pos hgap, e1, e2]
      clear hgap e1 e2
      have hA : (parts.take (c1 + 1)).length = c1 + 1 := by
        rw [List.length_take]
        omega
      have hM : ((parts.drop (c1 + 1)).take (g + 2)).length = g + 2 := by
        rw [List.length_take, List.length_drop]
        omega
      refine .inr (.inr ⟨parts.take (c1 + 1), (parts.drop (c1 + 1)).take (g + 2), parts.drop (c1 + 1 + (g + 2)),
        chars.take (i + 1), (chars.drop (i + 1)).map (· - (c1 + 1 + (g + 2))), ?_, ?_, ?_, ?_, ?_⟩)
      · rw [← List.drop_drop (i := g + 2) (j := c1 + 1), List.append_assoc, List.take_append_drop, List.take_append_drop]
      · rw [hA, hM, map_sub_add _ _ hge, List.take_append_drop]
      · exact List.ne_nil_of_length_pos (by rw [hM]; exact Nat.succ_pos _)
      · intro x hx
        rw [hA]
        exact Nat.lt_succ_of_le (hle x hx)
      · rw [hA, List.map_map]
        congr 2
        apply List.map_congr_left
        intro y hy
        obtain ⟨z, rfl⟩ := Nat.exists_eq_add_of_le (hge y hy)
        simp only [Function.comp, Nat.add_sub_cancel_left]
        omega
    · rw [if_neg hgap]
      exact .inr (.inl rfl)
  · rw [if_neg hi]
    exact .inl rfl

/-- Whatever gluing one gap keeps, the loop keeps.  Each step needs valid indices, hence `Q ∧ Valid`. -/
theorem mergeLoop_rule (Q : List Bytes → List Nat → Prop)
    (glue : ∀ (A M B : List Bytes) (a b : List Nat), M ≠ [] → (∀ x ∈ a, x < A.length) →
      Q (A ++ M ++ B) (a ++ b.map (· + (A.length + M.length))) →
      Q (A ++ [M.flatten] ++ B) (a ++ b.map (· + (A.length + 1))))
    (fuel i : Nat) (parts : List Bytes) (chars : List Nat) (hv : Valid chars parts.length) (h : Q parts chars) :
    Q (mergeLoop fuel i parts chars).1 (mergeLoop fuel i parts chars).2 ∧
    Valid (mergeLoop fuel i parts chars).2 (mergeLoop fuel i parts chars).1.length := by
  induction fuel generalizing i parts chars with
  | zero => exact ⟨h, hv⟩
  | succ f ih =>
    rcases mergeLoop_step f i parts chars hv with e | e | ⟨A, M, B, a, b, rfl, rfl, hM, ha, e⟩ <;> rw [e]
    · exact ⟨h, hv⟩
    · exact ih _ _ _ hv h
    · exact ih _ _ _ (valid_merge A M B a b ha hv) (glue A M B a b hM ha h)

theorem mergeLoop_inv (fuel i : Nat) (parts : List Bytes) (chars : List Nat) (hne : NE parts)
    (hv : Valid chars parts.length) :
    NE (mergeLoop fuel i parts chars).1 ∧
    Valid (mergeLoop fuel i parts chars).2 (mergeLoop fuel i parts chars).1.length :=
  mergeLoop_rule (fun P _ => NE P)
    (fun A M B _ _ hM _ h => ne_merge A M B hM h) fuel i parts chars hv hne

theorem mergeLoop_cat (fuel i : Nat) (parts : List Bytes) (chars : List Nat) (hv : Valid chars parts.length) :
    (mergeLoop fuel i parts chars).1.flatten = parts.flatten :=
  (mergeLoop_rule (fun P _ => P.flatten = parts.flatten)
    (fun A M B _ _ _ _ h => by rw [← h]; simp) fuel i parts chars hv rfl).1

theorem sorted_head_le {c0 : Nat} {rest : List Nat} (h : (c0 :: rest).Pairwise (· < ·)) : ∀ c ∈ c0 :: rest, c0 ≤ c := by
  intro c hc
  rcases List.mem_cons.mp hc with rfl | hc
  · exact Nat.le_refl _
  · exact Nat.le_of_lt ((List.pairwise_cons.mp h).1 c hc)

theorem header_footer_valid {c0 off : Nat} {rest C : List Nat} (parts : List Bytes) (ov : Valid (c0 :: rest) parts.length)
    (hC : C = (c0 :: rest).map (· - c0)) (hoff : off = C.getLast?.getD 0 + 1) :
    Valid C ((parts.drop c0).take off).length := by
  have hc0 := sorted_head_le ov.1
  have hs : C.Pairwise (· < ·) := by
    rw [hC, List.pairwise_map]
    exact ov.1.imp_of_mem fun ha _ hab => Nat.sub_lt_sub_right (hc0 _ ha) hab
  have hb : ∀ c ∈ C, c < parts.length - c0 := by
    rw [hC]
    intro c hc
    obtain ⟨y, hy, rfl⟩ := List.mem_map.mp hc
    exact Nat.sub_lt_sub_right (hc0 y hy) (ov.2 y hy)
  refine ⟨hs, ?_⟩
  intro c hc
  have hne : C ≠ [] := List.ne_nil_of_mem hc
  -- every index is at most the last one, and the last one is in range
  obtain ⟨k, hk, rfl⟩ := List.mem_iff_getElem.mp hc
  have h1 := sorted_mono hs (Nat.le_sub_one_of_lt hk) (Nat.sub_one_lt_of_lt hk)
  have h2 := hb _ (List.getLast_mem hne)
  rw [List.getLast_eq_getElem] at h2
  rw [hoff, List.getLast?_eq_some_getLast hne, Option.getD_some, List.getLast_eq_getElem, List.length_take,
    List.length_drop]
  omega

theorem splitJs_ok : Load.SplitOK splitJs := by
  intro d s h
  obtain ⟨chars, parts, ho, hs⟩ := splitJs_ok_cases d s h
  have hcat := outer_cat _ _ _ _ _ _ ho
  simp only [List.flatten_nil, List.nil_append] at hcat
  obtain ⟨one, ov⟩ := outer_inv _ _ _ _ _ _ ne_nil (valid_nil _) ho
  rcases hs with ⟨rfl, rfl⟩ | ⟨c0, rest, C, off, m, rfl, rfl, rfl, rfl, rfl⟩
  · exact ⟨by simp [hcat], one, by simp⟩
  · have hv2 := header_footer_valid parts ov rfl rfl
    refine ⟨?_, (mergeLoop_inv _ 0 _ _ (ne_take _ _ (ne_drop _ _ one)) hv2).1, by simp⟩
    simp only
    rw [mergeLoop_cat _ _ _ _ hv2, ← hcat, List.append_assoc, ← List.flatten_append, List.take_append_drop,
      ← List.flatten_append, List.take_append_drop]

end Js
