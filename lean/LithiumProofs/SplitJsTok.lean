/-
The token grammar of JS-string mode: `tokLen` cuts one `IsTok` (a character or a complete escape
sequence) off non-empty data (`tokLen_spec`); its bounds and positivity are read off that.
-/
import LithiumModel.SplitJs
import LithiumProofs.Util

namespace Js

/-- one string character or one complete escape sequence -/
def IsTok (p : Bytes) : Prop :=
  (∃ c, p = [c] ∧ c ≠ 0x5C) ∨
  (∃ a b c d, p = [0x5C, 0x75, a, b, c, d] ∧ isHex a = true ∧ isHex b = true ∧ isHex c = true ∧ isHex d = true) ∨
  (∃ a b, p = [0x5C, 0x78, a, b] ∧ isHex a = true ∧ isHex b = true) ∨
  (∃ hs, hs ≠ [] ∧ (∀ h ∈ hs, isHex h = true) ∧ p = [0x5C, 0x75, 0x7B] ++ hs ++ [0x7D]) ∨
  (∃ c, p = [0x5C, c]) ∨
  p = [0x5C]      -- a backslash that is the very last byte of the data

theorem isTok_pos (p : Bytes) (h : IsTok p) : 1 ≤ p.length := by
  rcases h with ⟨_, rfl, _⟩ | ⟨_, _, _, _, rfl, _⟩ | ⟨_, _, rfl, _⟩ | ⟨_, _, _, rfl⟩ | ⟨_, rfl⟩ | rfl <;> simp

theorem isU4_true {r : Bytes} (h : isU4 r = true) :
    ∃ a b c d tl, r = 0x75 :: a :: b :: c :: d :: tl ∧ isHex a = true ∧ isHex b = true ∧ isHex c = true ∧
      isHex d = true := by
  unfold isU4 at h
  split at h
  · rename_i a b c d tl
    simp only [Bool.and_eq_true] at h
    exact ⟨a, b, c, d, tl, rfl, h.1.1.1, h.1.1.2, h.1.2, h.2⟩
  · exact absurd h (by simp)

theorem isX2_true {r : Bytes} (h : isX2 r = true) :
    ∃ a b tl, r = 0x78 :: a :: b :: tl ∧ isHex a = true ∧ isHex b = true := by
  unfold isX2 at h
  split at h
  · rename_i a b tl
    simp only [Bool.and_eq_true] at h
    exact ⟨a, b, tl, rfl, h.1, h.2⟩
  · exact absurd h (by simp)

theorem uBrace_some {r : Bytes} {k : Nat} (h : uBrace r = some k) :
    ∃ hs tl, r = 0x75 :: 0x7B :: (hs ++ 0x7D :: tl) ∧ hs ≠ [] ∧ (∀ x ∈ hs, isHex x = true) ∧ k = hs.length + 4 := by
  unfold uBrace at h
  split at h
  · rename_i r2
    simp only at h
    split at h
    · exact absurd h (by simp)
    · rename_i hne
      split at h
      · rename_i tl hdrop
        injection h with h
        refine ⟨r2.takeWhile isHex, tl, ?_, by intro h0; rw [h0] at hne; simp at hne, Util.mem_takeWhile, h.symm⟩
        rw [← hdrop, Util.takeWhile_append_drop]
      · exact absurd h (by simp)
  · exact absurd h (by simp)

theorem tokLen_spec (c : UInt8) (rest : Bytes) : ∃ p r, c :: rest = p ++ r ∧ IsTok p ∧ tokLen (c :: rest) = p.length := by
  rw [tokLen]
  by_cases hc : (c != 0x5C) = true
  · rw [if_pos hc]
    exact ⟨[c], rest, rfl, .inl ⟨c, rfl, by simpa using hc⟩, rfl⟩
  · rw [if_neg hc]
    have hc' : c = 0x5C := by simpa using hc
    subst hc'
    by_cases hu4 : isU4 rest = true
    · rw [if_pos hu4]
      obtain ⟨a, b, c, d, tl, rfl, h⟩ := isU4_true hu4
      exact ⟨[0x5C, 0x75, a, b, c, d], tl, rfl, .inr (.inl ⟨a, b, c, d, rfl, h⟩), rfl⟩
    · rw [if_neg hu4]
      by_cases hx2 : isX2 rest = true
      · rw [if_pos hx2]
        obtain ⟨a, b, tl, rfl, h⟩ := isX2_true hx2
        exact ⟨[0x5C, 0x78, a, b], tl, rfl, .inr (.inr (.inl ⟨a, b, rfl, h⟩)), rfl⟩
      · rw [if_neg hx2]
        cases hub : uBrace rest with
        | some k =>
          obtain ⟨hs, tl, rfl, hne, hhex, rfl⟩ := uBrace_some hub
          exact ⟨[0x5C, 0x75, 0x7B] ++ hs ++ [0x7D], tl, by simp, .inr (.inr (.inr (.inl ⟨hs, hne, hhex, rfl⟩))),
            by simp⟩
        | none =>
          cases rest with
          | nil => exact ⟨[0x5C], [], rfl, .inr (.inr (.inr (.inr (.inr rfl)))), rfl⟩
          | cons x tl => exact ⟨[0x5C, x], tl, rfl, .inr (.inr (.inr (.inr (.inl ⟨x, rfl⟩)))), rfl⟩

theorem tokLen_bounds (c : UInt8) (rest : Bytes) :
    1 ≤ tokLen (c :: rest) ∧ tokLen (c :: rest) ≤ (c :: rest).length := by
  obtain ⟨p, r, e, ht, hl⟩ := tokLen_spec c rest
  rw [hl, e, List.length_append]
  exact ⟨isTok_pos p ht, Nat.le_add_right _ _⟩

theorem tokLen_eq_zero_iff (d : Bytes) : tokLen d = 0 ↔ d = [] := by
  cases d with
  | nil => exact ⟨fun _ => rfl, fun _ => rfl⟩
  | cons c rest =>
    have := (tokLen_bounds c rest).1
    exact ⟨fun h => by omega, fun h => nomatch h⟩

theorem tokLen_drop_lt (d : Bytes) (h : tokLen d ≠ 0) : (d.drop (tokLen d)).length < d.length := by
  cases d with
  | nil => exact absurd rfl h
  | cons c rest =>
    have := tokLen_bounds c rest
    rw [List.length_drop]
    omega

theorem length_induction {α : Type} {P : List α → Prop} (h : ∀ d, (∀ d', d'.length < d.length → P d') → P d)
    (d : List α) : P d :=
  h d fun d' _ => length_induction h d'
termination_by d.length

theorem tok_induction {P : Bytes → Prop} (nil : P [])
    (step : ∀ d, tokLen d ≠ 0 → P (d.drop (tokLen d)) → P d) (d : Bytes) : P d := by
  induction d using length_induction with
  | h d ih =>
    by_cases h0 : tokLen d = 0
    · rw [(tokLen_eq_zero_iff d).mp h0]
      exact nil
    · exact step d h0 (ih _ (tokLen_drop_lt d h0))

theorem tokLen_take_tok (d : Bytes) (h : tokLen d ≠ 0) : IsTok (d.take (tokLen d)) := by
  cases d with
  | nil => exact absurd rfl h
  | cons c rest =>
    obtain ⟨p, r, e, ht, hl⟩ := tokLen_spec c rest
    rw [hl, e, List.take_left' rfl]
    exact ht

end Js
