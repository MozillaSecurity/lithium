/-
The chunk summary string of the pair strategies.  One notion, three words: the Python writes "S"
for a surviving chunk, the model `true`; `alive s j` reads it and `setDead` clears it.
-/
import LithiumModel.Pairs

namespace Strat

/-- chunk `j` survives; an index outside the summary counts as removed -/
def alive (s : List Bool) (j : Nat) : Bool := s.getD j false

theorem alive_cons_sub (x : Bool) (xs : List Bool) {i j : Nat} (h : i < j) :
    alive (x :: xs) (j - i) = alive xs (j - (i + 1)) := by
  rw [← Nat.sub_add_cancel (Nat.sub_pos_of_lt h), ← Nat.sub_add_eq]
  exact List.getD_cons_succ

theorem alive_cons_zero (x : Bool) (xs : List Bool) : alive (x :: xs) 0 = x :=
  List.getD_cons_zero

theorem alive_lt_length (s : List Bool) (j : Nat) (h : alive s j = true) : j < s.length := by
  unfold alive at h
  rcases Nat.lt_or_ge j s.length with hlt | hge
  · exact hlt
  · rw [List.getD_eq_getElem?_getD, List.getElem?_eq_none hge] at h
    simp at h

/-- a hit is the first surviving index from `frm` on; `i` is the index of the head of `s` -/
theorem indexFrom_spec (s : List Bool) (i frm : Nat) :
    match indexFrom s i frm with
    | some a => frm ≤ a ∧ i ≤ a ∧ alive s (a - i) = true ∧
        ∀ j, i ≤ j → frm ≤ j → j < a → alive s (j - i) = false
    | none => ∀ j, i ≤ j → frm ≤ j → alive s (j - i) = false := by
  induction s generalizing i with
  | nil => intro j _ _; rfl
  | cons x xs ih =>
    unfold indexFrom
    by_cases hc : (decide (frm ≤ i) && x) = true
    · rw [if_pos hc]
      simp only [Bool.and_eq_true, decide_eq_true_eq] at hc
      exact ⟨hc.1, Nat.le_refl _, by simp [alive, hc.2], fun j h1 _ h3 => by omega⟩
    · rw [if_neg hc]
      -- index `i` itself is not a hit; behind it the list `xs` with head index `i + 1` decides
      have hi : ∀ j, i ≤ j → frm ≤ j → (i + 1 ≤ j → alive xs (j - (i + 1)) = false) → alive (x :: xs) (j - i) = false := by
        intro j h1 h2 h3
        rcases Nat.eq_or_lt_of_le h1 with rfl | hlt
        · simpa [h2, alive_cons_zero] using hc
        · rw [alive_cons_sub x xs hlt]; exact h3 hlt
      have := ih (i + 1)
      split at this
      · rename_i a _
        obtain ⟨h1, h2, h3, h4⟩ := this
        refine ⟨h1, by omega, ?_, fun j hj1 hj2 hj3 => hi j hj1 hj2 (fun h => h4 j h hj2 hj3)⟩
        rw [alive_cons_sub x xs h2]; exact h3
      · exact fun j hj1 hj2 => hi j hj1 hj2 (fun h => this j h hj2)

theorem indexS_eq_some {s : List Bool} {frm a : Nat} :
    indexS s frm = some a ↔ frm ≤ a ∧ alive s a = true ∧ ∀ j, frm ≤ j → j < a → alive s j = false := by
  have := indexFrom_spec s 0 frm
  unfold indexS
  split at this
  · rename_i a' ha'
    obtain ⟨h1, -, h3, h4⟩ := this
    simp only [Nat.sub_zero, Nat.zero_le, true_implies] at h3 h4
    rw [ha']
    refine ⟨fun h => ?_, fun ⟨g1, g2, g3⟩ => ?_⟩
    · cases h; exact ⟨h1, h3, h4⟩
    · -- two first survivors coincide
      rcases Nat.lt_trichotomy a a' with h | rfl | h
      · rw [h4 a g1 h] at g2; cases g2
      · rfl
      · rw [g3 a' h1 h] at h3; cases h3
  · rename_i hn
    simp only [Nat.sub_zero, Nat.zero_le, true_implies] at this
    rw [hn]
    refine ⟨fun h => (nomatch h), fun ⟨g1, g2, _⟩ => ?_⟩
    rw [this a g1] at g2; cases g2

theorem indexS_eq_none {s : List Bool} {frm : Nat} :
    indexS s frm = none ↔ ∀ j, frm ≤ j → alive s j = false := by
  refine ⟨fun h => ?_, fun h => ?_⟩
  · have := indexFrom_spec s 0 frm
    rw [show indexFrom s 0 frm = none from h] at this
    simpa using this
  · cases hx : indexS s frm with
    | none => rfl
    | some a =>
      obtain ⟨h1, h2, -⟩ := indexS_eq_some.mp hx
      rw [h a h1] at h2; cases h2

theorem indexS_spec (s : List Bool) (frm a : Nat) (h : indexS s frm = some a) :
    frm ≤ a ∧ a < s.length ∧ alive s a = true ∧ ∀ j, frm ≤ j → j < a → alive s j = false :=
  have ⟨h1, h2, h3⟩ := indexS_eq_some.mp h
  ⟨h1, alive_lt_length s a h2, h2, h3⟩

theorem setDead_length (s : List Bool) (i : Nat) : (setDead s i).length = s.length := by
  simp [setDead]

theorem alive_setDead (s : List Bool) (i j : Nat) :
    alive (setDead s i) j = (if i = j then false else alive s j) := by
  unfold alive setDead
  rw [List.getD_eq_getElem?_getD, List.getD_eq_getElem?_getD, List.getElem?_set]
  by_cases h : i = j
  · subst h
    simp only [if_true]
    split <;> rfl
  · simp [h]

/-! ### count

`countFrom_succ` and `countFrom_empty` are the two inductions over the list; everything else about
`countS` is an induction on the upper bound. -/

theorem countFrom_succ (s : List Bool) (i a b : Nat) :
    countFrom s i a (b + 1) = countFrom s i a b + if a ≤ b ∧ i ≤ b ∧ alive s (b - i) = true then 1 else 0 := by
  induction s generalizing i with
  | nil => simp [countFrom, alive]
  | cons x xs ih =>
    simp only [countFrom, ih (i + 1)]
    rcases Nat.lt_trichotomy i b with h | rfl | h
    · rw [alive_cons_sub x xs h]
      simp only [Nat.lt_succ_of_lt h, Nat.succ_le_of_lt h, h, Nat.le_of_lt h]
      omega
    · simp only [Nat.sub_self, alive_cons_zero, Nat.lt_irrefl, Nat.le_refl, show ¬ i + 1 ≤ i by omega]
      simp [Nat.add_comm]
    · simp [show ¬ i < b + 1 by omega, show ¬ i < b by omega, show ¬ i ≤ b by omega, show ¬ i + 1 ≤ b by omega]

theorem countFrom_empty (s : List Bool) (i : Nat) {a b : Nat} (h : b ≤ a) : countFrom s i a b = 0 := by
  induction s generalizing i with
  | nil => rfl
  | cons x xs ih =>
    simp only [countFrom, ih (i + 1)]
    by_cases hi : a ≤ i <;> simp [hi] <;> omega

theorem countS_self (s : List Bool) (a : Nat) : countS s a a = 0 := countFrom_empty s 0 (Nat.le_refl a)

theorem countS_succ (s : List Bool) {a b : Nat} (hab : a ≤ b) :
    countS s a (b + 1) = countS s a b + if alive s b = true then 1 else 0 := by
  simp [countS, countFrom_succ, hab]

theorem countS_congr {s t : List Bool} {a b : Nat} (h : ∀ j, a ≤ j → j < b → alive s j = alive t j) :
    countS s a b = countS t a b := by
  induction b with
  | zero => rw [countS, countS, countFrom_empty _ _ (Nat.zero_le a), countFrom_empty _ _ (Nat.zero_le a)]
  | succ b ih =>
    rcases Nat.lt_or_ge b a with hlt | hge
    · rw [countS, countS, countFrom_empty _ _ hlt, countFrom_empty _ _ hlt]
    · rw [countS_succ s hge, countS_succ t hge, ih (fun j h1 h2 => h j h1 (by omega)), h b hge (by omega)]

theorem countS_indexS {s : List Bool} {a frm l : Nat} (hl : indexS s frm = some l) (ha : a ≤ frm) :
    countS s a l = countS s a frm := by
  obtain ⟨h1, -, -, h4⟩ := indexS_spec _ _ _ hl
  clear hl
  induction l with
  | zero => rw [show frm = 0 by omega]
  | succ l ih =>
    rcases Nat.eq_or_lt_of_le h1 with rfl | hlt
    · rfl
    · rw [countS_succ s (by omega), h4 l (by omega) (by omega), ih (by omega) (fun j h2 h3 => h4 j h2 (by omega))]
      simp

theorem countS_alive {s : List Bool} {a b : Nat} (hab : a ≤ b) (h : ∀ j, a ≤ j → j < b → alive s j = true) :
    countS s a b = b - a := by
  induction b with
  | zero => rw [show a = 0 by omega]; exact countS_self s 0
  | succ b ih =>
    rcases Nat.eq_or_lt_of_le hab with rfl | hlt
    · rw [countS_self]; omega
    · rw [countS_succ s (by omega), h b (by omega) (by omega), ih (by omega) (fun j h1 h2 => h j h1 (by omega))]
      simp only [if_true]; omega

theorem countS_setDead_outside (s : List Bool) (i a b : Nat) (h : i < a ∨ b ≤ i) :
    countS (setDead s i) a b = countS s a b :=
  countS_congr (fun j h2 h3 => by rw [alive_setDead, if_neg (by omega)])

/-! ### the summary a pass starts with: every chunk survives -/

theorem alive_replicate (n j : Nat) : alive (List.replicate n true) j = decide (j < n) := by
  unfold alive
  rw [List.getD_eq_getElem?_getD, List.getElem?_replicate]
  split <;> simp [*]

theorem indexS_replicate (n frm : Nat) :
    indexS (List.replicate n true) frm = if frm < n then some frm else none := by
  split
  · exact indexS_eq_some.mpr ⟨Nat.le_refl _, by simpa [alive_replicate], fun j h1 h2 => by omega⟩
  · exact indexS_eq_none.mpr (fun j hj => by simp only [alive_replicate, decide_eq_false_iff_not]; omega)

theorem countS_replicate (n a b : Nat) (hab : a ≤ b) (hb : b ≤ n) :
    countS (List.replicate n true) a b = b - a :=
  countS_alive hab (fun j _ h2 => by simp only [alive_replicate, decide_eq_true_eq]; omega)

end Strat
