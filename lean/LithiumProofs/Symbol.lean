/-
The symbol splitter: `symSplit` cuts its input into non-empty pieces (C06), exactly at the documented
boundaries when the two byte sets are disjoint (C15).  Both follow from the scanner read byte by byte.
-/
import LithiumProofs.Load

namespace Load

/-- the rest of a match once its optional cut-before byte is read: the run, then one cut-after byte if next -/
abbrev symRest (B A : List UInt8) (d : Bytes) : Bytes × Bytes := symClose A [] (symRun B A d)

theorem symClose_pre (A : List UInt8) (pre : Bytes) (r : Bytes × Bytes) :
    symClose A pre r = (pre ++ (symClose A [] r).1, (symClose A [] r).2) := by
  unfold symClose
  split
  · split <;> simp
  · simp

theorem symRest_cons (B A : List UInt8) (y : UInt8) (ys : Bytes) :
    symRest B A (y :: ys) =
      if B.contains y then (if A.contains y then ([y], ys) else ([], y :: ys))
      else if A.contains y then ([y], ys)
      else (y :: (symRest B A ys).1, (symRest B A ys).2) := by
  unfold symRest
  rw [symRun]
  cases hB : B.contains y <;> cases hA : A.contains y <;>
    simp only [Bool.or_true, Bool.or_false, ↓reduceIte, Bool.false_eq_true]
  · rcases symRun B A ys with ⟨r, _ | ⟨c, cs⟩⟩
    · rfl
    · simp only [symClose]; split <;> rfl
  all_goals simp only [symClose, hA, ↓reduceIte, Bool.false_eq_true]; rfl

theorem symTok_cons (B A : List UInt8) (c : UInt8) (cs : Bytes) :
    symTok B A (c :: cs) =
      if B.contains c then (c :: (symRest B A cs).1, (symRest B A cs).2) else symRest B A (c :: cs) := by
  simp only [symTok]
  split
  · exact symClose_pre A [c] _
  · rfl

theorem symRest_append (B A : List UInt8) (d : Bytes) : (symRest B A d).1 ++ (symRest B A d).2 = d := by
  induction d with
  | nil => rfl
  | cons y ys ih =>
    rw [symRest_cons]
    split
    · split <;> rfl
    · split
      · rfl
      · simp [ih]

theorem symTok_append_ne_nil (B A : List UInt8) (c : UInt8) (cs : Bytes) :
    (symTok B A (c :: cs)).1 ++ (symTok B A (c :: cs)).2 = c :: cs ∧
      (symTok B A (c :: cs)).1 ≠ [] := by
  rw [symTok_cons]
  split
  · simp [symRest_append]
  · rename_i hB
    refine ⟨symRest_append B A _, ?_⟩
    rw [symRest_cons, if_neg hB]
    split <;> simp

theorem symTok_rest_length_le (B A : List UInt8) (c : UInt8) (cs : Bytes) :
    (symTok B A (c :: cs)).2.length ≤ cs.length := by
  obtain ⟨h1, h2⟩ := symTok_append_ne_nil B A c cs
  have := congrArg List.length h1
  have := List.length_pos_iff.mpr h2
  simp only [List.length_append, List.length_cons] at *
  omega

theorem symSplit_cons (B A : List UInt8) (n : Nat) (c : UInt8) (cs : Bytes) :
    symSplit B A (n + 1) (c :: cs) = (symTok B A (c :: cs)).1 :: symSplit B A n (symTok B A (c :: cs)).2 := by
  rw [symSplit, if_neg (by simpa using (symTok_append_ne_nil B A c cs).2)]
  exact List.cons_ne_nil c cs

theorem symSplit_flatten_ne_nil (B A : List UInt8) (fuel : Nat) (d : Bytes) (h : d.length < fuel) :
    (symSplit B A fuel d).flatten = d ∧ ∀ x ∈ symSplit B A fuel d, x ≠ [] := by
  induction fuel generalizing d with
  | zero => omega
  | succ n ih =>
    cases d with
    | nil => simp [symSplit]
    | cons c cs =>
      obtain ⟨h1, h2⟩ := symTok_append_ne_nil B A c cs
      obtain ⟨ih1, ih2⟩ := ih _ (Nat.lt_of_le_of_lt (symTok_rest_length_le B A c cs) (by simpa using h))
      rw [symSplit_cons]
      simp only [List.flatten_cons, ih1, h1, List.mem_cons, true_and]
      rintro x (rfl | hx)
      · exact h2
      · exact ih2 x hx

theorem splitSymbol_ok (B A : List UInt8) : SplitOK (splitSymbol B A) := by
  intro d s h
  simp only [splitSymbol, Except.ok.injEq] at h
  subst h
  obtain ⟨h1, h2⟩ := symSplit_flatten_ne_nil B A (d.length + 1) d (by omega)
  exact ⟨by simp [h1], h2, by simp⟩

def isCut (B A : List UInt8) (x y : UInt8) : Bool := A.contains x || B.contains y

def consHead (c : UInt8) : List Bytes → List Bytes
  | [] => [[c]]
  | p :: ps => (c :: p) :: ps

/-- reference: cut the data at every position whose left neighbour is a cut-after byte or
whose right neighbour is a cut-before byte -/
def cutSpec (B A : List UInt8) : Bytes → List Bytes
  | [] => []
  | [c] => [[c]]
  | c :: c' :: rest =>
    if isCut B A c c' then [c] :: cutSpec B A (c' :: rest)
    else consHead c (cutSpec B A (c' :: rest))

theorem cutSpec_after (B A : List UInt8) (y : UInt8) (ys : Bytes) (h : A.contains y = true) :
    cutSpec B A (y :: ys) = [y] :: cutSpec B A ys := by
  cases ys with
  | nil => rfl
  | cons z zs => simp only [cutSpec, isCut, h, Bool.true_or, ↓reduceIte]

/-- after a byte that is no cut-after byte, the reference's first piece goes on exactly as the scanner does -/
theorem cutSpec_symRest (B A : List UInt8) (hdisj : ∀ c, ¬ (B.contains c = true ∧ A.contains c = true))
    (x : UInt8) (d : Bytes) (hx : A.contains x = false) :
    cutSpec B A (x :: d) = (x :: (symRest B A d).1) :: cutSpec B A (symRest B A d).2 := by
  induction d generalizing x with
  | nil => rfl
  | cons y ys ih =>
    rw [symRest_cons, cutSpec, isCut, hx, Bool.false_or]
    cases hB : B.contains y <;> cases hA : A.contains y <;> simp only [↓reduceIte, Bool.false_eq_true]
    · rw [ih y hA]; rfl
    · rw [cutSpec_after B A y ys hA]; rfl
    · exact absurd ⟨hB, hA⟩ (hdisj y)

theorem symTok_cutSpec (B A : List UInt8)
    (hdisj : ∀ c, ¬ (B.contains c = true ∧ A.contains c = true)) (c : UInt8) (cs : Bytes) :
    cutSpec B A (c :: cs) = (symTok B A (c :: cs)).1 :: cutSpec B A (symTok B A (c :: cs)).2 := by
  rw [symTok_cons]
  cases hB : B.contains c <;> cases hA : A.contains c <;> simp only [↓reduceIte, Bool.false_eq_true]
  · rw [symRest_cons, hB, hA]; exact cutSpec_symRest B A hdisj c cs hA
  · rw [symRest_cons, hB, hA]; exact cutSpec_after B A c cs hA
  · exact cutSpec_symRest B A hdisj c cs hA
  · exact absurd ⟨hB, hA⟩ (hdisj c)

theorem symSplit_eq_cutSpec (B A : List UInt8)
    (hdisj : ∀ c, ¬ (B.contains c = true ∧ A.contains c = true)) (fuel : Nat) (d : Bytes)
    (h : d.length < fuel) : symSplit B A fuel d = cutSpec B A d := by
  induction fuel generalizing d with
  | zero => omega
  | succ n ih =>
    cases d with
    | nil => rfl
    | cons c cs =>
      rw [symSplit_cons, ih _ (Nat.lt_of_le_of_lt (symTok_rest_length_le B A c cs) (by simpa using h))]
      exact (symTok_cutSpec B A hdisj c cs).symm

end Load
