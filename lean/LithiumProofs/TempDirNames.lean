/-
Behind C20: what the name-level loop of create_temp_dir returns (the number-level theorems follow from it), and
the invariant of concurrently starting runs.
-/
import LithiumModel.TempDir
import Std.Data.String.ToNat

namespace TempDir

theorem dirName_inj {i j : Nat} (h : dirName i = dirName j) : i = j := by
  unfold dirName at h
  have h2 : toString i = toString j := by
    have := congrArg String.toList h
    simp only [String.toList_append] at this
    exact String.toList_inj.mp (List.append_cancel_left this)
  exact Nat.repr_injective h2

/-- pigeonhole: the names `dirName i`, .., `dirName (i + k - 1)` are distinct -/
theorem le_length_of_names_mem (names : List String) (i k : Nat)
    (h : ∀ j, i ≤ j → j < i + k → dirName j ∈ names) : k ≤ names.length := by
  have nd : ((List.range' i k).map dirName).Nodup :=
    List.Pairwise.map dirName (fun _ _ hne e => hne (dirName_inj e)) List.nodup_range'
  have := nd.length_le_of_subset fun x hx => by
    obtain ⟨j, hj, rfl⟩ := List.mem_map.mp hx
    exact h j (List.mem_range'_1.mp hj).1 (List.mem_range'_1.mp hj).2
  rwa [List.length_map, List.length_range'] at this

/-- `n` is the first `j ≥ i` with `dirName j ∉ names`, or `i + fuel` when the fuel runs out.  Stated for ANY fuel,
so without a termination measure -/
theorem seqLoopN_spec (names : List String) (fuel i : Nat) :
    ∃ n, seqLoopN names (fun _ => none) fuel i = .ok n ∧ i ≤ n ∧
      (∀ j, i ≤ j → j < n → dirName j ∈ names) ∧ (dirName n ∉ names ∨ n = i + fuel) := by
  induction fuel generalizing i with
  | zero =>
    exact ⟨i, rfl, Nat.le_refl _, fun j h1 h2 => absurd (Nat.lt_of_le_of_lt h1 h2) (Nat.lt_irrefl _), .inr rfl⟩
  | succ f ih =>
    unfold seqLoopN
    by_cases hc : dirName i ∈ names
    · obtain ⟨n, h1, h2, h3, h4⟩ := ih (i + 1)
      refine ⟨n, by simpa [hc] using h1, Nat.le_of_succ_le h2, fun j hj1 hj2 => ?_,
        h4.imp_right (fun e => e.trans (Nat.add_right_comm i 1 f))⟩
      by_cases hje : i = j
      · exact hje ▸ hc
      · exact h3 j (Nat.lt_of_le_of_ne hj1 hje) hj2
    · exact ⟨i, by simp [hc], Nat.le_refl _,
        fun j h1 h2 => absurd (Nat.lt_of_le_of_lt h1 h2) (Nat.lt_irrefl _), .inl hc⟩

/-! ### a set `taken` of numbers is the listing `taken.map dirName` -/

theorem seqLoopN_eq_seqLoop (names : List String) (taken : List Nat) (faults : Nat → Option Nat)
    (h : ∀ i, taken.contains i = names.contains (dirName i)) (fuel i : Nat) :
    seqLoopN names faults fuel i = seqLoop taken faults fuel i := by
  induction fuel generalizing i with
  | zero => rfl
  | succ f ih =>
    unfold seqLoopN seqLoop
    cases faults i with
    | some e => rfl
    | none => simp only [h i, ih]

theorem mem_map_dirName (taken : List Nat) (i : Nat) : dirName i ∈ taken.map dirName ↔ i ∈ taken :=
  ⟨fun h => by obtain ⟨j, hj, e⟩ := List.mem_map.mp h; exact dirName_inj e ▸ hj, fun h => List.mem_map.mpr ⟨i, h, rfl⟩⟩

theorem createTempDir_eq_names (taken : List Nat) (faults : Nat → Option Nat) :
    createTempDir taken faults = createTempDirN (taken.map dirName) faults := by
  unfold createTempDir createTempDirN
  rw [List.length_map]
  exact (seqLoopN_eq_seqLoop _ taken faults (fun i => by simp [mem_map_dirName]) _ _).symm

/-- what every reachable state of `k` concurrently starting runs satisfies -/
structure Safe (taken0 : List Nat) (s : Sys) : Prop where
  created_fresh : ∀ x ∈ s.created, x.1 ∉ taken0
  created_taken : ∀ x ∈ s.created, x.1 ∈ s.taken
  taken_mono : ∀ n ∈ taken0, n ∈ s.taken
  /-- `mkdir` is atomic -/
  names_nodup : (s.created.map (·.1)).Nodup
  got : ∀ pid p, s.procs[pid]? = some p → ∀ n, p.got = some n → (n, pid) ∈ s.created

theorem safe_init (taken0 : List Nat) (k : Nat) : Safe taken0 (initSys taken0 k) := by
  refine ⟨by simp [initSys], by simp [initSys], fun n hn => hn, by simp [initSys], ?_⟩
  intro pid p hp n hn
  cases (List.mem_replicate.mp (List.mem_of_getElem? hp)).2
  cases hn

theorem getElem?_set_cases {α} {l : List α} {i : Nat} {p : α} (hp : l[i]? = some p) (x : α) (q : Nat) (y : α)
    (h : (l.set i x)[q]? = some y) : (q = i ∧ y = x) ∨ l[q]? = some y := by
  by_cases hqi : q = i
  · subst hqi
    rw [List.getElem?_set_self', hp] at h
    exact Or.inl ⟨rfl, (Option.some.inj h).symm⟩
  · rw [List.getElem?_set_ne (Ne.symm hqi)] at h
    exact Or.inr h

theorem safe_step (taken0 : List Nat) (s : Sys) (pid : Nat) (h : Safe taken0 s) :
    Safe taken0 (stepProc s pid) := by
  unfold stepProc
  cases hp : s.procs[pid]? with
  | none => exact h
  | some p =>
    simp only
    cases hg : p.got with
    | some n => exact h
    | none =>
      by_cases hc : s.taken.contains p.i = true
      · simp only [hc, if_true]
        refine ⟨h.created_fresh, h.created_taken, h.taken_mono, h.names_nodup, ?_⟩
        intro q pq hq n hn
        rcases getElem?_set_cases hp _ q pq hq with ⟨rfl, rfl⟩ | hq
        · cases hn
        · exact h.got q pq hq n hn
      · have hnot : p.i ∉ s.taken := by simpa using hc
        simp only [hc, Bool.false_eq_true, if_false]
        refine ⟨?_, ?_, ?_, ?_, ?_⟩
        · intro x hx
          rcases List.mem_cons.mp hx with rfl | hx
          · exact fun hm => hnot (h.taken_mono _ hm)
          · exact h.created_fresh x hx
        · intro x hx
          rcases List.mem_cons.mp hx with rfl | hx
          · exact List.mem_cons_self
          · exact List.mem_cons_of_mem _ (h.created_taken x hx)
        · exact fun n hn => List.mem_cons_of_mem _ (h.taken_mono n hn)
        · simp only [List.map_cons, List.nodup_cons]
          refine ⟨?_, h.names_nodup⟩
          intro hm
          obtain ⟨x, hx, hx2⟩ := List.mem_map.mp hm
          exact hnot (hx2 ▸ h.created_taken x hx)
        · intro q pq hq n hn
          rcases getElem?_set_cases hp _ q pq hq with ⟨rfl, rfl⟩ | hq
          · cases hn
            exact List.mem_cons_self
          · exact List.mem_cons_of_mem _ (h.got q pq hq n hn)

theorem safe_run (taken0 : List Nat) (sched : List Nat) (s : Sys) (h : Safe taken0 s) :
    Safe taken0 (runSchedule s sched) := by
  induction sched generalizing s with
  | nil => exact h
  | cons a t ih => exact ih _ (safe_step taken0 s a h)

end TempDir
