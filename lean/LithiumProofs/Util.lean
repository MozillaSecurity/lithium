/-
The arithmetic of chunk sizes (C09, C10, C14): `Nat.log2` is monotone and drops by one with each
halving; `largest_power_of_two_smaller_than` has the closed form `lp2 n = 2 ^ log2 (n - 1)`, from
which everything the bounds need of it follows; `clog2` is the `ceil(log2 n)` of the test bounds.
A few facts about lists and sums that several regions share stand here as well.
-/
import LithiumModel.Util

namespace Util

theorem log2_mono {a b : Nat} (hab : a ≤ b) : Nat.log2 a ≤ Nat.log2 b := by
  by_cases ha : a = 0
  · rw [ha, Nat.log2_zero]
    exact Nat.zero_le _
  · exact (Nat.le_log2 (by omega)).2 (Nat.le_trans (Nat.log2_self_le ha) hab)

theorem log2_halve (cs : Nat) (h : 2 ≤ cs) : Nat.log2 (cs / 2) + 1 = Nat.log2 cs := by
  rw [Nat.log2_def cs, if_pos h]

theorem log2_succ_le_of_le_half (cs r : Nat) (hcs : 2 ≤ cs) (hr : r ≤ cs / 2) :
    Nat.log2 r + 1 ≤ Nat.log2 cs := by
  rw [← log2_halve cs hcs]
  exact Nat.succ_le_succ (log2_mono hr)

theorem one_shiftLeft_bitLength (n : Nat) (h : n ≠ 0) : 1 <<< (bitLength n - 1) = 2 ^ Nat.log2 n := by
  simp [bitLength, h, Nat.one_shiftLeft]

theorem lp2_eq (n : Nat) : lp2 n = 2 ^ Nat.log2 (n - 1) := by
  match n with
  | 0 => decide
  | 1 => decide
  | k + 2 =>
    show lp2 (k + 2) = 2 ^ Nat.log2 (k + 1)
    -- `2^L ≤ k + 1 < 2^(L+1)`, so `k + 2` is `2^(L+1)` or still has `L + 1` bits
    have h0 : k + 2 ≠ 0 := Nat.succ_ne_zero _
    have hle := Nat.log2_self_le (Nat.succ_ne_zero k)
    have hlt : k + 1 < 2 ^ (Nat.log2 (k + 1) + 1) := Nat.lt_log2_self
    generalize Nat.log2 (k + 1) = L at *
    have hp : 2 ^ (L + 1) = 2 ^ L * 2 := Nat.pow_succ ..
    unfold lp2
    simp only [one_shiftLeft_bitLength _ h0, Bool.and_eq_true, beq_iff_eq, decide_eq_true_eq,
      Nat.shiftRight_eq_div_pow, Nat.pow_one]
    by_cases hc : 2 ^ (L + 1) = k + 2
    · have : Nat.log2 (k + 2) = L + 1 := by rw [← hc, Nat.log2_two_pow]
      rw [this, if_pos ⟨hc, Nat.succ_lt_succ (Nat.succ_pos k)⟩, hp, Nat.mul_div_cancel _ Nat.two_pos]
    · have : Nat.log2 (k + 2) = L :=
        (Nat.log2_eq_iff h0).2 ⟨Nat.le_succ_of_le hle, Nat.lt_of_le_of_ne hlt (Ne.symm hc)⟩
      rw [this, if_neg (fun h => by omega)]

theorem lp2_pos (n : Nat) : 1 ≤ lp2 n := by
  rw [lp2_eq]; exact Nat.one_le_two_pow

theorem lp2_le_one (n : Nat) (h : n ≤ 1) : lp2 n = 1 := by
  rw [lp2_eq, Nat.sub_eq_zero_of_le h]; rfl

theorem le_two_lp2 (n : Nat) : n ≤ 2 * lp2 n := by
  have : n - 1 < 2 ^ (Nat.log2 (n - 1) + 1) := Nat.lt_log2_self
  rw [Nat.pow_succ, ← lp2_eq] at this
  omega

theorem le_of_lp2_lt_pow (n j : Nat) (h : lp2 n < 2 ^ j) : n ≤ 2 ^ j := by
  rw [lp2_eq, Nat.pow_lt_pow_iff_right (by omega)] at h
  by_cases h1 : n - 1 = 0
  · have := Nat.one_le_two_pow (n := j); omega
  · have := (Nat.log2_lt h1).1 h; omega

theorem lp2_le_pow (n k : Nat) (h : n ≤ 2 ^ (k + 1)) : lp2 n ≤ 2 ^ k := by
  rw [lp2_eq]
  apply Nat.pow_le_pow_right (by omega)
  by_cases h1 : n - 1 = 0
  · rw [h1]; exact Nat.zero_le _
  · exact Nat.le_of_lt_succ ((Nat.log2_lt h1).2 (by omega))

theorem lp2_lt_or (n : Nat) : lp2 n < n ∨ lp2 n = 1 := by
  by_cases hn : n ≤ 1
  · exact Or.inr (lp2_le_one n hn)
  · rw [lp2_eq]
    exact Or.inl (Nat.lt_of_le_of_lt (Nat.log2_self_le (by omega)) (by omega))

theorem log2_lp2 (n : Nat) : Nat.log2 (lp2 n) = Nat.log2 (n - 1) := by
  rw [lp2_eq, Nat.log2_two_pow]

theorem isPowerOfTwo_iff (i : Int) : isPowerOfTwo i = true ↔ ∃ j : Nat, i = (2 : Int) ^ j := by
  unfold isPowerOfTwo
  simp only [beq_iff_eq, Nat.one_shiftLeft]
  constructor
  · intro h
    obtain ⟨k, hk⟩ : ∃ k, k = bitLength i.natAbs - 1 := ⟨_, rfl⟩
    rw [← hk] at h
    exact ⟨k, by rw [← h]; simp⟩
  · rintro ⟨j, rfl⟩
    have hn : ((2 : Int) ^ j).natAbs = 2 ^ j := by
      rw [Int.natAbs_pow]; rfl
    rw [hn]
    simp [bitLength, Nat.log2_two_pow]

theorem divUp_one (n : Nat) : divUp n 1 = n := by
  unfold divUp
  simp [Nat.mod_one]

theorem divUp_le (n cs : Nat) (hcs : 1 ≤ cs) : divUp n cs ≤ n := by
  unfold divUp
  have hq : n / cs ≤ cs * (n / cs) := Nat.le_mul_of_pos_left _ (by omega)
  have hdm := Nat.div_add_mod n cs
  split
  · omega
  · rename_i hne
    have : 0 < n % cs := Nat.pos_of_ne_zero hne
    omega

/-- a pass that gets as far as its loop has a positive chunk size -/
theorem pos_of_divUp {n cs : Nat} (h : 2 ≤ divUp n cs) : 1 ≤ cs := by
  rcases Nat.eq_zero_or_pos cs with rfl | h0
  · simp only [divUp, Nat.div_zero, Nat.zero_add] at h
    split at h <;> omega
  · exact h0

theorem natCast_min_succ {n k : Nat} (h : k < n) : ((min n (k + 1) : Nat) : Int) = (k : Int) + 1 := by
  rw [Nat.min_eq_right (Nat.succ_le_of_lt h)]
  rfl

theorem fst_inj_of_nodup {α β} (l : List (α × β)) (hn : (l.map (·.1)).Nodup) (x y : α × β)
    (hx : x ∈ l) (hy : y ∈ l) (h : x.1 = y.1) : x = y :=
  List.Pairwise.forall_of_forall_of_flip (R := fun x y => x.1 = y.1 → x = y) (fun _ _ _ => rfl)
    ((List.pairwise_map.mp hn).imp fun h e => absurd e h) ((List.pairwise_map.mp hn).imp fun h e => absurd e.symm h) hx hy h

theorem takeWhile_append_drop {α} (p : α → Bool) (l : List α) :
    l.takeWhile p ++ l.drop (l.takeWhile p).length = l := by
  have := List.take_append_drop (l.takeWhile p).length l
  rwa [← List.prefix_iff_eq_take.mp (List.takeWhile_prefix p)] at this

theorem mem_takeWhile {α} {p : α → Bool} {l : List α} : ∀ b ∈ l.takeWhile p, p b = true :=
  List.all_eq_true.mp List.all_takeWhile

theorem mem_dropWhile {α} {p : α → Bool} {l : List α} {x : α} (hx : x ∈ l) (hp : p x = false) :
    x ∈ l.dropWhile p := by
  rw [← List.takeWhile_append_dropWhile (p := p) (l := l), List.mem_append] at hx
  exact hx.resolve_left fun h => Bool.false_ne_true (hp.symm.trans (mem_takeWhile x h))

end Util

namespace Strat
open Util

/-- `ceil(log2 n)` -/
def clog2 (n : Nat) : Nat := if n ≤ 1 then 0 else Nat.log2 (n - 1) + 1

theorem clog2_of_two_le {n : Nat} (h : 2 ≤ n) : clog2 n = Nat.log2 (n - 1) + 1 :=
  if_neg (Nat.not_le.2 h)

/-- `min max (lp2 n)` is the chunk size minimize starts with -/
theorem log2_min_lp2 (mx n : Nat) : Nat.log2 (min mx (lp2 n)) ≤ Nat.log2 (n - 1) := by
  rw [← log2_lp2]
  exact log2_mono (Nat.min_le_right _ _)

theorem log2_start_le (mx n : Nat) : Nat.log2 (min mx (lp2 n)) ≤ Nat.log2 (n + 1) :=
  Nat.le_trans (log2_min_lp2 mx n) (log2_mono (by omega))

theorem log2_start_le_clog2 (mx n : Nat) : Nat.log2 (min mx (lp2 n)) ≤ clog2 n := by
  have hm := log2_min_lp2 mx n
  by_cases hn : n ≤ 1
  · rw [Nat.sub_eq_zero_of_le hn] at hm
    exact Nat.le_trans hm (Nat.zero_le _)
  · rw [clog2_of_two_le (Nat.lt_of_not_le hn)]
    exact Nat.le_succ_of_le hm

/-- one more pass within the budget: with `k` passes of at most `n` tests each still to come instead
of `K ≥ k + 1`, the `n` tests just run are paid for -/
theorem budget_step {t t' k K n : Nat} (ht : t' ≤ t + n) (hk : k + 1 ≤ K) : t' + k * n ≤ t + K * n := by
  have := Nat.mul_le_mul_right n hk
  rw [Nat.succ_mul] at this
  omega

end Strat
