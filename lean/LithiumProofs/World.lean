/-
Invariants of the driver model (C01, C02, C11, C12).

No operation of the driver reads the test log `W.tests`; it only appends to it.  So the invariants are proved about
a list `ts` that holds the tests of ONE run, and serve a fresh `Lithium` object and a used one alike.
-/
import LithiumModel.World

namespace World

/-- the bytes the testcase file held during the most recent accepting test (`dflt` if none) -/
def lastAccepted (tests : List TestRec) (dflt : Bytes) : Bytes :=
  tests.foldl (fun acc r => if r.out = .accept then r.disk else acc) dflt

/-- the tagged copy written after a test that did not raise -/
def tagOf (r : TestRec) : TmpName × Bytes := (.numbered r.idx (r.out == .accept), r.disk)

/-- among equal numbers the later entry wins -/
def pickMax (acc : Option (Nat × Bytes)) (x : TmpName × Bytes) : Option (Nat × Bytes) :=
  match x.1 with
  | .numbered i true =>
    (match acc with
     | some (j, b) => if j ≤ i then some (i, x.2) else some (j, b)
     | none => some (i, x.2))
  | _ => acc

/-- the `*-interesting` entry with the highest number -/
def maxInteresting (tmp : List (TmpName × Bytes)) : Option (Nat × Bytes) := tmp.foldl pickMax none

/-- what a user recovers from the temp dir: the highest-numbered `*-interesting` copy, or
`original` when there is none -/
def recover (tmp : List (TmpName × Bytes)) : Option Bytes :=
  match maxInteresting tmp with
  | some (_, b) => some b
  | none => (tmp.find? (fun x => x.1 == .original)).map (·.2)

theorem lastAccepted_snoc (ts : List TestRec) (r : TestRec) (d : Bytes) :
    lastAccepted (ts ++ [r]) d = if r.out = .accept then r.disk else lastAccepted ts d := by
  simp [lastAccepted, List.foldl_append]

@[simp] theorem lastAccepted_nil (d : Bytes) : lastAccepted [] d = d := rfl

/-- the world after `Lithium.interesting(c, write_it)`, the test answering `out` -/
def tested (w : W) (c : Testcase) (wr : Bool) (out : Outcome) : W :=
  { w with
    disk := if wr then c.content else w.disk
    diskWrites := if wr then w.diskWrites + 1 else w.diskWrites
    testCount := w.testCount + 1
    testTotal := w.testTotal + c.len
    tests := w.tests ++ [⟨w.tmpCounter, if wr then c.content else w.disk, w.tmp, out⟩]
    trace := w.trace ++ [Hook.test w.tmpCounter]
    tmp := if out = .raise then w.tmp else w.tmp ++ [(.numbered w.tmpCounter (out == .accept), c.content)]
    tmpCounter := if out = .raise then w.tmpCounter else w.tmpCounter + 1
    lastInteresting := if out = .accept then some c else w.lastInteresting
    testcase := if out = .accept then c else w.testcase }

theorem interesting_eq (w : W) (c : Testcase) (wr : Bool) (out : Outcome) :
    interesting w c wr out =
      (tested w c wr out, match out with | .raise => none | .accept => some true | .reject => some false) := by
  cases out <;> cases wr <;> rfl

/-- the world after `try_testcase(c)` for a candidate not tried before, the test answering `out` -/
def tryNew (w : W) (c : Testcase) (out : Outcome) : W :=
  { tested { w with tried := c.content :: w.tried } c true out with
    exit := if out = .raise then .raised else w.exit
    best := if out = .accept then c else w.best
    anySuccess := out == .accept || w.anySuccess }

theorem stepEv_propose (w : W) (c : Testcase) (out : Outcome) :
    stepEv w (.propose c out) = if w.tried.contains c.content then w else tryNew w c out := by
  cases out <;> rfl

theorem snoc_of_eq {α} {l pre ts : List α} (h : l = pre ++ ts) (x : α) : l ++ [x] = pre ++ (ts ++ [x]) := by
  rw [h, List.append_assoc]

/-- The induction rule for the reduction loop.  The log is `pre ++ ts` throughout and `P ts w` sees only `ts`: all
tests of the object for `pre := []`, those of this run for `pre` the log as `run()` found it. -/
theorem loop_ghost (pre : List TestRec) {P : List TestRec → W → Prop}
    (write : ∀ ts w b, P ts w → P ts { w with disk := b, diskWrites := w.diskWrites + 1 })
    (err : ∀ ts w, P ts w → P ts { w with exit := .raised })
    (test : ∀ ts w c out, P ts w → w.exit = .running → w.tried.contains c.content = false →
      P (ts ++ [⟨w.tmpCounter, c.content, w.tmp, out⟩]) (tryNew w c out))
    (ts : List TestRec) (w : W) (evs : List Ev) (ht : w.tests = pre ++ ts) (h : P ts w) :
    ∃ ts', (loop w evs).tests = pre ++ ts' ∧ P ts' (loop w evs) := by
  induction evs generalizing ts w with
  | nil => exact ⟨ts, ht, h⟩
  | cons e es ih =>
    unfold loop
    cases hx : w.exit with
    | running =>
      cases e with
      | write b => exact ih _ _ ht (write _ w b h)
      | strategyError => exact ih _ _ ht (err _ w h)
      | propose c out =>
        rw [stepEv_propose]
        by_cases hn : w.tried.contains c.content = true
        · rw [if_pos hn]
          exact ih _ _ ht h
        · rw [if_neg hn]
          exact ih _ _ (snoc_of_eq ht _) (test _ w c out h hx (Bool.of_not_eq_true hn))
    | returned s => exact ⟨ts, ht, h⟩
    | raised => exact ⟨ts, ht, h⟩

theorem finish_eq (w : W) :
    finish w = { w with
      trace := w.trace ++ [Hook.cleanup]
      disk := match w.lastInteresting with | some t => t.content | none => w.disk
      diskWrites := match w.lastInteresting with
        | some t => if w.disk = t.content then w.diskWrites else w.diskWrites + 1
        | none => w.diskWrites } := by
  unfold finish
  cases w.lastInteresting with
  | none => rfl
  | some t =>
    by_cases hd : w.disk = t.content
    · simp [hd]
    · simp [hd]

theorem afterLoop_eq (w : W) :
    afterLoop w = finish (if w.exit = .running then
      { w with disk := w.best.content, diskWrites := w.diskWrites + 1,
               exit := .returned (if w.anySuccess then 0 else 1) } else w) := by
  unfold afterLoop
  split <;> simp_all

/-- `Strategy.main` and `finally`, from the state `s` in which the first test is made -/
def runFrom (s : W) (evs : List Ev) (first : Outcome) : W :=
  if s.testcase.len = 0 then finish { s with exit := .returned 0 }
  else if first = .accept then afterLoop (loop (tested s s.testcase false .accept) evs)
  else finish { tested s s.testcase false first with exit := if first = .raise then .raised else .returned 1 }

theorem runMainW_eq (w0 : W) (evs : List Ev) (first : Outcome) :
    runMainW w0 evs first = runFrom (dumpOriginal (beginRun w0)) evs first := by
  simp only [runMainW, interesting_eq]
  cases first <;> rfl

theorem runCheckOnlyW_eq (w0 : W) (first : Outcome) :
    runCheckOnlyW w0 first = finish { tested (beginRun w0) (beginRun w0).testcase false first with
      exit := if first = .raise then .raised else .returned (if first = .accept then 0 else 1) } := by
  simp only [runCheckOnlyW, interesting_eq]
  cases first <;> rfl

theorem runFrom_cases (s : W) (evs : List Ev) (first : Outcome) :
    (s.testcase.len = 0 ∧ runFrom s evs first = finish { s with exit := .returned 0 }) ∨
    (s.testcase.len ≠ 0 ∧ first = .accept ∧
      runFrom s evs first = afterLoop (loop (tested s s.testcase false .accept) evs)) ∨
    (s.testcase.len ≠ 0 ∧ first ≠ .accept ∧ runFrom s evs first =
      finish { tested s s.testcase false first with exit := if first = .raise then .raised else .returned 1 }) := by
  by_cases h : s.testcase.len = 0
  · exact .inl ⟨h, if_pos h⟩
  · by_cases h' : first = .accept
    · exact .inr (.inl ⟨h, h', (if_neg h).trans (if_pos h')⟩)
    · exact .inr (.inr ⟨h, h', (if_neg h).trans (if_neg h')⟩)

theorem finish_tests (w : W) : (finish w).tests = w.tests := by
  rw [finish_eq]

theorem afterLoop_tests (w : W) : (afterLoop w).tests = w.tests := by
  rw [afterLoop_eq, finish_tests]
  split <;> rfl

/-! `Core` and `Rest` read the log from the world: to speak of the tests `ts` of one run they are applied to
`{ w with tests := ts }`, which is `w` again for `ts := w.tests`; `d0` is what the file held before the first of
these tests. -/

/-- inside the reduction loop the iterator's `best`, `Lithium.last_interesting` and `Lithium.testcase` are one object -/
structure Core (d0 : Bytes) (w : W) : Prop where
  best : w.best.content = lastAccepted w.tests d0
  li : w.lastInteresting = some w.best
  tc : w.testcase = w.best

theorem Core.congr {d : Bytes} {w w' : W} (h : Core d w) (hb : w'.best = w.best)
    (hl : w'.lastInteresting = w.lastInteresting) (hc : w'.testcase = w.testcase) (ht : w'.tests = w.tests) :
    Core d w' := by
  refine ⟨?_, ?_, ?_⟩
  · rw [hb, ht]
    exact h.best
  · rw [hl, hb]
    exact h.li
  · rw [hc, hb]
    exact h.tc

theorem Core.of_tests {d : Bytes} {w : W} {ts : List TestRec} (h : Core d { w with tests := ts }) (e : w.tests = ts) :
    Core d w := by
  subst e
  exact h

theorem tryNew_core (d : Bytes) (w : W) (ts : List TestRec) (c : Testcase) (out : Outcome)
    (h : Core d { w with tests := ts }) :
    Core d { tryNew w c out with tests := ts ++ [⟨w.tmpCounter, c.content, w.tmp, out⟩] } := by
  cases out
  · exact ⟨by simp [tryNew, lastAccepted_snoc], rfl, rfl⟩
  · exact ⟨by simpa [tryNew, lastAccepted_snoc] using h.best, h.li, h.tc⟩
  · exact ⟨by simpa [tryNew, lastAccepted_snoc] using h.best, h.li, h.tc⟩

/-- the state a `Lithium` object is in between two `run()` calls, and inside a run until its first accepting test
(from then on `Core`); `li`: what `finish` would restore is what the file holds already -/
structure Rest (d0 : Bytes) (w : W) : Prop where
  disk : w.disk = lastAccepted w.tests d0
  tc : w.testcase.content = w.disk
  li : ∀ t, w.lastInteresting = some t → t.content = w.disk

theorem Rest.congr {d : Bytes} {w w' : W} (h : Rest d w) (hd : w'.disk = w.disk) (hc : w'.testcase = w.testcase)
    (hl : w'.lastInteresting = w.lastInteresting) (ht : w'.tests = w.tests) : Rest d w' := by
  refine ⟨?_, ?_, ?_⟩
  · rw [hd, ht]
    exact h.disk
  · rw [hc, hd]
    exact h.tc
  · rw [hl, hd]
    exact h.li

theorem Rest.of_tests {d : Bytes} {w : W} {ts : List TestRec} (h : Rest d { w with tests := ts }) (e : w.tests = ts) :
    Rest d w := by
  subst e
  exact h

/-- `beginRun` forgets `lastInteresting`, so the third clause of `Rest` holds of nothing -/
theorem beginRun_rest (d : Bytes) (w0 : W) (ts : List TestRec) (hd : w0.disk = lastAccepted ts d)
    (hc : w0.testcase.content = w0.disk) : Rest d { beginRun w0 with tests := ts } :=
  ⟨hd, hc, nofun⟩

theorem finish_core (d : Bytes) (w : W) (ts : List TestRec) (h : Core d { w with tests := ts }) :
    Rest d { finish w with tests := ts } := by
  have hli : w.lastInteresting = some w.best := h.li
  have htc : w.testcase = w.best := h.tc
  have hb : w.best.content = lastAccepted ts d := h.best
  constructor <;> simp [finish_eq, hli, htc, hb]

theorem finish_rest (d : Bytes) (w : W) (ts : List TestRec) (h : Rest d { w with tests := ts }) :
    Rest d { finish w with tests := ts } := by
  have hd : (match w.lastInteresting with | some t => t.content | none => w.disk) = w.disk := by
    cases hl : w.lastInteresting with
    | none => rfl
    | some t => exact h.li t hl
  rw [finish_eq]
  exact ⟨hd.trans h.disk, h.tc.trans hd.symm, fun t ht => (h.li t ht).trans hd.symm⟩

theorem tested_rest (d : Bytes) (w : W) (ts : List TestRec) (out : Outcome) (h : Rest d { w with tests := ts })
    (ho : out ≠ .accept) :
    Rest d { tested w w.testcase false out with tests := ts ++ [⟨w.tmpCounter, w.disk, w.tmp, out⟩] } := by
  cases out
  · exact absurd rfl ho
  · exact ⟨by simpa [tested, lastAccepted_snoc] using h.disk, h.tc, h.li⟩
  · exact ⟨by simpa [tested, lastAccepted_snoc] using h.disk, h.tc, h.li⟩

theorem tested_rest_accept (d : Bytes) (w : W) (ts : List TestRec) (h : Rest d { w with tests := ts })
    (hb : w.best = w.testcase) :
    Core d { tested w w.testcase false .accept with tests := ts ++ [⟨w.tmpCounter, w.disk, w.tmp, .accept⟩] } :=
  ⟨by simpa [tested, lastAccepted_snoc, hb] using h.tc, by simp [tested, hb], by simp [tested, hb]⟩

theorem loop_core (d : Bytes) (pre ts : List TestRec) (w : W) (evs : List Ev) (ht : w.tests = pre ++ ts)
    (h : Core d { w with tests := ts }) :
    ∃ ts', (loop w evs).tests = pre ++ ts' ∧ Core d { loop w evs with tests := ts' } :=
  loop_ghost pre (P := fun ts w => Core d { w with tests := ts }) (fun _ _ _ h => h.congr rfl rfl rfl rfl)
    (fun _ _ h => h.congr rfl rfl rfl rfl) (fun ts w c out h _ _ => tryNew_core d w ts c out h) ts w evs ht h

theorem afterLoop_core (d : Bytes) (w : W) (ts : List TestRec) (h : Core d { w with tests := ts }) :
    Rest d { afterLoop w with tests := ts } := by
  rw [afterLoop_eq]
  split
  · exact finish_core d _ ts (h.congr rfl rfl rfl rfl)
  · exact finish_core d _ ts h

theorem runFrom_rest (d : Bytes) (pre ts : List TestRec) (s : W) (evs : List Ev) (first : Outcome)
    (ht : s.tests = pre ++ ts) (hs : Rest d { s with tests := ts }) (hb : s.best = s.testcase) :
    ∃ ts', (runFrom s evs first).tests = pre ++ ts' ∧ Rest d { runFrom s evs first with tests := ts' } := by
  rcases runFrom_cases s evs first with ⟨-, hr⟩ | ⟨-, -, hr⟩ | ⟨-, h, hr⟩ <;> rw [hr]
  · exact ⟨ts, (finish_tests _).trans ht, finish_rest d _ ts (hs.congr rfl rfl rfl rfl)⟩
  · obtain ⟨ts', ht', hc⟩ := loop_core d pre _ _ evs (snoc_of_eq ht _) (tested_rest_accept d s ts hs hb)
    exact ⟨ts', (afterLoop_tests _).trans ht', afterLoop_core d _ _ hc⟩
  · have := tested_rest d s ts first hs h
    exact ⟨_, (finish_tests _).trans (snoc_of_eq ht _), finish_rest d _ _ (this.congr rfl rfl rfl rfl)⟩

/-- `drop pre.length` is how the results about a used object (`C01_new_job_on_used_object`, …) name the tests of this run -/
theorem runMainW_rest (d : Bytes) (pre ts : List TestRec) (w0 : W) (evs : List Ev) (first : Outcome)
    (ht : w0.tests = pre ++ ts) (h : Rest d { beginRun w0 with tests := ts }) :
    Rest d { runMainW w0 evs first with tests := (runMainW w0 evs first).tests.drop pre.length } := by
  rw [runMainW_eq]
  obtain ⟨ts', ht', hr⟩ :=
    runFrom_rest d pre ts (dumpOriginal (beginRun w0)) evs first ht (h.congr rfl rfl rfl rfl) rfl
  rw [ht', List.drop_left]
  exact hr

/-- after any run on an object whose testcase is what the file holds, the file holds what it held during this run's last
accepting test, or what it held at the start -/
theorem new_job_final (w0 : W) (evs : List Ev) (first : Outcome) (htc : w0.testcase.content = w0.disk) :
    (runMainW w0 evs first).disk = lastAccepted ((runMainW w0 evs first).tests.drop w0.tests.length) w0.disk :=
  (runMainW_rest w0.disk _ [] w0 evs first (List.append_nil _).symm (beginRun_rest _ w0 [] rfl htc)).disk

theorem runCheckOnlyW_rest (d : Bytes) (w0 : W) (first : Outcome) (h : Rest d w0) :
    Rest d (runCheckOnlyW w0 first) := by
  have hs := beginRun_rest d w0 _ h.disk h.tc
  rw [runCheckOnlyW_eq]
  by_cases hf : first = .accept
  · subst hf
    refine Rest.of_tests (finish_core d _ _ ?_) (finish_tests _)
    exact (tested_rest_accept d _ _ hs rfl).congr rfl rfl rfl rfl
  · refine Rest.of_tests (finish_rest d _ _ ?_) (finish_tests _)
    exact (tested_rest d _ _ first hs hf).congr rfl rfl rfl rfl

theorem fresh_rest (orig : Testcase) (d0 : Bytes) (h : orig.content = d0) : Rest d0 (fresh orig d0) :=
  ⟨rfl, h, nofun⟩

theorem fresh_start_tmp (orig : Testcase) (d : Bytes) :
    (dumpOriginal (beginRun (fresh orig d))).tmp = [(.original, orig.content)] := rfl

theorem checkOnly_counts (w0 : W) (first : Outcome) :
    let w := runCheckOnlyW w0 first
    w.tests.length = w0.tests.length + 1 ∧ w.testCount = w0.testCount + 1 ∧
      w.exit = (if first = .raise then .raised else .returned (if first = .accept then 0 else 1)) := by
  rw [runCheckOnlyW_eq, finish_eq]
  exact ⟨List.length_append, rfl, rfl⟩

/-- check-only writes the file only if the test accepts a testcase that differs from the file -/
theorem checkOnly_no_write (w0 : W) (first : Outcome) (h : first = .accept → w0.testcase.content = w0.disk) :
    (runCheckOnlyW w0 first).diskWrites = w0.diskWrites ∧ (runCheckOnlyW w0 first).disk = w0.disk := by
  rw [runCheckOnlyW_eq, finish_eq]
  cases first
  · exact ⟨if_pos (h rfl).symm, h rfl⟩
  · exact ⟨rfl, rfl⟩
  · exact ⟨rfl, rfl⟩

/-- `s` is the state in which the run makes its first test, `ts` its tests so far.  `ts.tail`: the first test is the
check of the original, made outside `try_testcase`, so neither de-duplicated nor counted as a reduction. -/
structure Log (s : W) (ts : List TestRec) (w : W) : Prop where
  trace : w.trace = s.trace ++ ts.map (fun r => Hook.test r.idx)
  idx : ∀ j (h : j < ts.length), ts[j].idx = s.tmpCounter + j
  -- a test that raises does not advance the counter, but it ends the run
  ctr : w.exit = .running → w.tmpCounter = s.tmpCounter + ts.length
  count : w.testCount = s.testCount + ts.length
  succ : w.anySuccess = ts.tail.any (·.out == .accept)
  tried : w.tried = (ts.tail.map (·.disk)).reverse
  nodup : (ts.tail.map (·.disk)).Nodup
  exit : w.exit = .running ∨ w.exit = .raised

/-- `tagOf r` is built from `r.disk`, the file during the test, while the copy holds the candidate.  The two differ
only at the first test, which does not write the file: hence the hypothesis `s.testcase.content = s.disk` wherever
`TmpLog` is used. -/
structure TmpLog (s : W) (ts : List TestRec) (w : W) : Prop where
  tmp : w.tmp = s.tmp ++ (ts.filter (·.out != .raise)).map tagOf
  seen : ∀ j (h : j < ts.length), ts[j].tmp = s.tmp ++ ((ts.take j).filter (·.out != .raise)).map tagOf

/-- a world that has raised keeps `Log` as well: only `ctr` asks for a running loop -/
theorem Log.congr {s : W} {ts : List TestRec} {w w' : W} (h : Log s ts w) (htr : w'.trace = w.trace)
    (hc : w'.tmpCounter = w.tmpCounter) (hn : w'.testCount = w.testCount) (hs : w'.anySuccess = w.anySuccess)
    (htd : w'.tried = w.tried) (he : w'.exit = w.exit ∨ w'.exit = .raised) : Log s ts w' := by
  refine ⟨htr.trans h.trace, h.idx, fun hr => ?_, hn.trans h.count, hs.trans h.succ, htd.trans h.tried, h.nodup, ?_⟩
  · rcases he with he | he
    · rw [hc]
      exact h.ctr (he ▸ hr)
    · rw [he] at hr
      cases hr
  · rcases he with he | he
    · rw [he]
      exact h.exit
    · exact .inr he

theorem TmpLog.congr {s : W} {ts : List TestRec} {w w' : W} (h : TmpLog s ts w) (ht : w'.tmp = w.tmp) : TmpLog s ts w' :=
  ⟨ht.trans h.tmp, h.seen⟩

theorem forall_getElem_snoc {α} {P : Nat → α → Prop} {l : List α} {x : α}
    (hl : ∀ j (h : j < l.length), P j l[j]) (hx : P l.length x) :
    ∀ j (h : j < (l ++ [x]).length), P j (l ++ [x])[j] := by
  intro j h
  by_cases hj : j < l.length
  · rw [List.getElem_append_left hj]
    exact hl j hj
  · have : j = l.length := by
      simp at h
      omega
    subst this
    rw [List.getElem_append_right (Nat.le_refl _)]
    simpa using hx

/-- if the run still goes on, the test did not raise and the counter went up -/
theorem counted_of_running {out : Outcome} {x : Exit} (c : Nat)
    (h : (if out = .raise then Exit.raised else x) = .running) : (if out = .raise then c else c + 1) = c + 1 := by
  cases out
  · rfl
  · rfl
  · cases h

theorem running_or_raised (out : Outcome) {x : Exit} (hx : x = .running) :
    (if out = .raise then Exit.raised else x) = .running ∨ (if out = .raise then Exit.raised else x) = .raised := by
  cases out
  · exact .inl hx
  · exact .inl hx
  · exact .inr rfl

theorem start_log (s : W) (h1 : s.tried = []) (h2 : s.anySuccess = false) (h3 : s.exit = .running) :
    Log s [] s :=
  ⟨by simp, nofun, by simp, by simp, h2, h1, .nil, .inl h3⟩

theorem start_tmpLog (s : W) : TmpLog s [] s :=
  ⟨(List.append_nil _).symm, nofun⟩

theorem first_log (s : W) (out : Outcome) (h1 : s.tried = []) (h2 : s.anySuccess = false) (h3 : s.exit = .running) :
    Log s [⟨s.tmpCounter, s.disk, s.tmp, out⟩]
      { tested s s.testcase false out with exit := if out = .raise then .raised else s.exit } := by
  refine ⟨rfl, fun j h => ?_, counted_of_running s.tmpCounter, rfl, h2, h1, .nil, running_or_raised out h3⟩
  cases Nat.lt_one_iff.1 h
  rfl

theorem first_tmpLog (s : W) (out : Outcome) (htc : s.testcase.content = s.disk) :
    TmpLog s [⟨s.tmpCounter, s.disk, s.tmp, out⟩]
      { tested s s.testcase false out with exit := if out = .raise then .raised else s.exit } := by
  refine ⟨?_, fun j h => ?_⟩
  · cases out
    · exact congrArg (fun b => s.tmp ++ [(TmpName.numbered s.tmpCounter true, b)]) htc
    · exact congrArg (fun b => s.tmp ++ [(TmpName.numbered s.tmpCounter false, b)]) htc
    · exact (List.append_nil _).symm
  · cases Nat.lt_one_iff.1 h
    exact (List.append_nil _).symm

theorem tryNew_log (s : W) (ts : List TestRec) (w : W) (c : Testcase) (out : Outcome) (h : Log s ts w)
    (hne : ts ≠ []) (hrun : w.exit = .running) (hn : w.tried.contains c.content = false) :
    Log s (ts ++ [⟨w.tmpCounter, c.content, w.tmp, out⟩]) (tryNew w c out) := by
  have hnot : c.content ∉ ts.tail.map (·.disk) := by
    have : c.content ∉ w.tried := by simpa using hn
    simpa [h.tried] using this
  have htl := List.tail_append_of_ne_nil (ys := [(⟨w.tmpCounter, c.content, w.tmp, out⟩ : TestRec)]) hne
  refine ⟨?_, forall_getElem_snoc (P := fun j (r : TestRec) => r.idx = s.tmpCounter + j) h.idx (h.ctr hrun),
    ?_, ?_, ?_, ?_, ?_, running_or_raised out hrun⟩
  · show w.trace ++ _ = _
    rw [h.trace, List.map_append, List.append_assoc]
    rfl
  · show _ → _ = s.tmpCounter + (ts ++ [_]).length
    rw [List.length_append, ← Nat.add_assoc, ← h.ctr hrun]
    exact counted_of_running w.tmpCounter
  · show w.testCount + 1 = _
    rw [List.length_append, ← Nat.add_assoc, ← h.count]
    rfl
  · show (out == .accept || w.anySuccess) = _
    rw [htl, List.any_append, ← h.succ, Bool.or_comm]
    simp
  · show c.content :: w.tried = _
    rw [htl, List.map_append, List.reverse_append, ← h.tried]
    rfl
  · rw [htl, List.map_append, List.nodup_append]
    refine ⟨h.nodup, by simp, fun a ha b hb e => ?_⟩
    simp at hb
    subst hb
    exact hnot (e ▸ ha)

theorem tryNew_tmpLog (s : W) (ts : List TestRec) (w : W) (c : Testcase) (out : Outcome) (h : TmpLog s ts w) :
    TmpLog s (ts ++ [⟨w.tmpCounter, c.content, w.tmp, out⟩]) (tryNew w c out) := by
  -- `seen`: an earlier test keeps its prefix of `ts`; the added record saw `w.tmp`, which `h.tmp` describes
  refine ⟨?_, forall_getElem_snoc
    (P := fun j (r : TestRec) => r.tmp = s.tmp ++ ((List.take j (ts ++ [_])).filter _).map tagOf)
    (fun j hj => by simpa [List.take_append_of_le_length (Nat.le_of_lt hj)] using h.seen j hj)
    (by simpa using h.tmp)⟩
  rw [List.filter_append, List.map_append, ← List.append_assoc, ← h.tmp]
  cases out
  · rfl
  · rfl
  · exact (List.append_nil _).symm

theorem loop_log (s : W) (pre ts : List TestRec) (w : W) (evs : List Ev) (ht : w.tests = pre ++ ts) (hne : ts ≠ [])
    (hl : Log s ts w) (hk : s.testcase.content = s.disk → TmpLog s ts w) :
    ∃ ts', (loop w evs).tests = pre ++ ts' ∧ Log s ts' (loop w evs) ∧
      (s.testcase.content = s.disk → TmpLog s ts' (loop w evs)) := by
  obtain ⟨ts', ht', -, hl', hk'⟩ := loop_ghost pre
    (P := fun ts w => ts ≠ [] ∧ Log s ts w ∧ (s.testcase.content = s.disk → TmpLog s ts w))
    (fun _ _ _ ⟨hne, h, k⟩ => ⟨hne, h.congr rfl rfl rfl rfl rfl (.inl rfl), fun c => (k c).congr rfl⟩)
    (fun _ _ ⟨hne, h, k⟩ => ⟨hne, h.congr rfl rfl rfl rfl rfl (.inr rfl), fun c => (k c).congr rfl⟩)
    (fun ts w c out ⟨hne, h, k⟩ hr hn => ⟨by simp, tryNew_log s ts w c out h hne hr hn,
      fun c' => tryNew_tmpLog s ts w c out (k c')⟩)
    ts w evs ht ⟨hne, hl, hk⟩
  exact ⟨ts', ht', hl', hk'⟩

/-- the status `Strategy.main` returns unless an exception leaves it -/
def Ran.status (s : W) (first : Outcome) (ts : List TestRec) : Nat :=
  if s.testcase.len = 0 then 0 else if first = .accept then if ts.tail.any (·.out == .accept) then 0 else 1 else 1

/-- What one `run()` with a reducing strategy has done, however it ends: `s` is the state in which it made its first
test, `first` the answer to that test, `ts` its tests, `r` the world it leaves. -/
structure Ran (s : W) (first : Outcome) (ts : List TestRec) (r : W) : Prop where
  tests : r.tests = s.tests ++ ts
  trace : r.trace = s.trace ++ ts.map (fun t => Hook.test t.idx) ++ [Hook.cleanup]
  idx : ∀ j (h : j < ts.length), ts[j].idx = s.tmpCounter + j
  count : r.testCount = s.testCount + ts.length
  nodup : (ts.tail.map (·.disk)).Nodup
  exit : r.exit = .raised ∨ r.exit = .returned (Ran.status s first ts)
  tmpLog : s.testcase.content = s.disk → TmpLog s ts r

/-- Every way a run ends is `finally` after `disk`, `diskWrites` and `exit` have been set, which `Log` and `TmpLog` do
not read.  Where nothing is set the caller passes `w.disk w.diskWrites w.exit`: that world is `w`. -/
theorem finish_ran {s : W} {first : Outcome} {ts : List TestRec} {w : W} (hl : Log s ts w)
    (hk : s.testcase.content = s.disk → TmpLog s ts w) (ht : w.tests = s.tests ++ ts) (d : Bytes) (n : Nat) (e : Exit)
    (he : e = .raised ∨ e = .returned (Ran.status s first ts)) :
    Ran s first ts (finish { w with disk := d, diskWrites := n, exit := e }) := by
  rw [finish_eq]
  exact ⟨ht, congrArg (· ++ [Hook.cleanup]) hl.trace, hl.idx, hl.count, hl.nodup, he,
    fun c => (hk c).congr rfl⟩

theorem runFrom_ran (s : W) (evs : List Ev) (first : Outcome) (h1 : s.tried = []) (h2 : s.anySuccess = false)
    (h3 : s.exit = .running) : ∃ ts, Ran s first ts (runFrom s evs first) := by
  rcases runFrom_cases s evs first with ⟨h, hr⟩ | ⟨h, rfl, hr⟩ | ⟨h, hf, hr⟩
  · rw [hr]
    exact ⟨[], finish_ran (start_log s h1 h2 h3) (fun _ => start_tmpLog s)
      (List.append_nil _).symm s.disk s.diskWrites _ (.inr (by rw [Ran.status, if_pos h]))⟩
  · -- for `.accept` the world of `first_log`/`first_tmpLog` is `tested s s.testcase false .accept`: its `exit` reduces
    -- to `s.exit`
    obtain ⟨ts, ht, hl, hk⟩ := loop_log s s.tests [_] (tested s s.testcase false .accept) evs rfl
      (List.cons_ne_nil _ _) (first_log s .accept h1 h2 h3) (first_tmpLog s .accept)
    rw [hr, afterLoop_eq]
    generalize loop (tested s s.testcase false .accept) evs = w at *
    by_cases hx : w.exit = .running
    · rw [if_pos hx]
      exact ⟨ts, finish_ran hl hk ht _ _ _ (.inr (by rw [Ran.status, if_neg h, if_pos rfl, hl.succ]))⟩
    · rw [if_neg hx]
      exact ⟨ts, finish_ran hl hk ht w.disk w.diskWrites w.exit (.inl (hl.exit.resolve_left hx))⟩
  · rw [hr]
    refine ⟨_, finish_ran (first_log s first h1 h2 h3) (first_tmpLog s first) rfl _ _ _ ?_⟩
    rw [Ran.status, if_neg h, if_neg hf]
    cases first
    · exact absurd rfl hf
    · exact .inr rfl
    · exact .inl rfl

theorem runMainW_ran (w0 : W) (evs : List Ev) (first : Outcome) :
    Ran (dumpOriginal (beginRun w0)) first ((runMainW w0 evs first).tests.drop w0.tests.length)
      (runMainW w0 evs first) := by
  rw [runMainW_eq]
  obtain ⟨ts, h⟩ := runFrom_ran (dumpOriginal (beginRun w0)) evs first rfl rfl rfl
  rw [h.tests]
  exact List.drop_left ▸ h

/-- the second conjunct is `hmax` again, for the next copy; `recover_log` keeps it with `<` against the counter -/
theorem recover_snoc (base : List (TmpName × Bytes)) (i : Nat) (f : Bool) (b : Bytes)
    (hmax : ∀ j b', maxInteresting base = some (j, b') → j ≤ i) :
    recover (base ++ [(.numbered i f, b)]) = (if f then some b else recover base) ∧
      ∀ j b', maxInteresting (base ++ [(.numbered i f, b)]) = some (j, b') → j ≤ i := by
  have hm : maxInteresting (base ++ [(.numbered i f, b)]) = pickMax (maxInteresting base) (.numbered i f, b) := by
    simp [maxInteresting, List.foldl_append]
  have hf : (base ++ [(TmpName.numbered i f, b)]).find? (fun x => x.1 == .original) =
      base.find? (fun x => x.1 == .original) := by
    rw [List.find?_append, show [(TmpName.numbered i f, b)].find? (fun x => x.1 == .original) = none from rfl]
    simp
  unfold recover
  rw [hm, hf]
  cases f with
  | false => exact ⟨rfl, hmax⟩
  | true =>
    have hp : pickMax (maxInteresting base) (.numbered i true, b) = some (i, b) := by
      cases hb : maxInteresting base with
      | none => rfl
      | some p => exact if_pos (hmax p.1 p.2 hb)
    rw [hp]
    refine ⟨rfl, fun j b' h => ?_⟩
    cases h
    exact Nat.le_refl _

theorem recover_log (l : List TestRec) (base : List (TmpName × Bytes)) (c : Nat) (d0 : Bytes)
    (hb : recover base = some d0) (hmax : ∀ j b, maxInteresting base = some (j, b) → j < c)
    (hidx : ∀ j (h : j < l.length), l[j].idx = c + j) :
    recover (base ++ (l.filter (·.out != .raise)).map tagOf) = some (lastAccepted l d0) := by
  induction l generalizing base c d0 with
  | nil => simpa using hb
  | cons r l ih =>
    have hr : r.idx = c := hidx 0 (by simp)
    have hl : ∀ j (h : j < l.length), l[j].idx = c + 1 + j := fun j h => by
      have := hidx (j + 1) (by simpa using h)
      simpa [Nat.add_comm 1 j, Nat.add_assoc] using this
    have hle := fun j b h => Nat.le_of_lt (hmax j b h)
    cases ho : r.out with
    | raise =>
      simpa [lastAccepted, ho] using ih base (c + 1) d0 hb (fun j b h => Nat.lt_succ_of_lt (hmax j b h)) hl
    | reject =>
      obtain ⟨h1, h2⟩ := recover_snoc base c false r.disk hle
      simpa [lastAccepted, ho, tagOf, hr, show (Outcome.reject == Outcome.accept) = false from rfl] using
        ih _ (c + 1) d0 (h1.trans hb) (fun j b h => Nat.lt_succ_of_le (h2 j b h)) hl
    | accept =>
      obtain ⟨h1, h2⟩ := recover_snoc base c true r.disk hle
      simpa [lastAccepted, ho, tagOf, hr] using
        ih _ (c + 1) r.disk h1 (fun j b h => Nat.lt_succ_of_le (h2 j b h)) hl

theorem ran_recover {s : W} {first : Outcome} {ts : List TestRec} {r : W} (h : Ran s first ts r)
    (htc : s.testcase.content = s.disk) (hb : recover s.tmp = some s.disk)
    (hmax : ∀ j b, maxInteresting s.tmp = some (j, b) → j < s.tmpCounter) (j : Nat) (hj : j < ts.length) :
    recover ts[j].tmp = some (lastAccepted (ts.take j) s.disk) := by
  rw [(h.tmpLog htc).seen j hj]
  refine recover_log _ _ _ _ hb hmax fun i hi => ?_
  rw [List.getElem_take]
  exact h.idx i _

end World
