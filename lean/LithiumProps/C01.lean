/-
C01 — The final file is exactly the last version the test accepted.

`runMain`/`runCheckOnly` model `Lithium.run()`; the strategy is ANY script of proposals, direct
file writes and failures (`List Ev`), the test ANY sequence of outcomes (including raising), so
the statements quantify over every strategy (also ones not yet written), every atom type and
option, and every behaviour of the test.  `TestRec.disk` is, by construction of the model, the
bytes at the testcase path while that test runs.
-/
import LithiumProofs.World

namespace World

/-- one `run()` on a fresh `Lithium` object whose testcase was loaded from the file
(`orig.content = diskOrig`, which is C06): however the run ends — normally, original rejected,
nothing to reduce, the test or the strategy raising at any point — the file then holds the
bytes it held during the most recent accepting test, and the original bytes if there was none. -/
theorem C01_final_is_last_accepted (orig : Testcase) (diskOrig : Bytes) (evs : List Ev)
    (first : Outcome) (h : orig.content = diskOrig) :
    (runMain orig diskOrig evs first).disk
      = lastAccepted (runMain orig diskOrig evs first).tests diskOrig :=
  new_job_final (fresh orig diskOrig) evs first h

/-- the same for check-only (`CheckOnly.main` inside `run()`): one test, and the file holds what it held during that
test if it was accepted, the original bytes otherwise -/
theorem C01_check_only (orig : Testcase) (diskOrig : Bytes) (first : Outcome)
    (h : orig.content = diskOrig) :
    (runCheckOnly orig diskOrig first).disk
      = lastAccepted (runCheckOnly orig diskOrig first).tests diskOrig :=
  (runCheckOnlyW_rest diskOrig _ first (fresh_rest orig diskOrig h)).disk

/-- any number of further `run()` calls on the same object (any mix of reducing strategies and
check-only) keep the file equal to the last accepted version over the whole history -/
theorem C01_every_later_run (diskOrig : Bytes) (w0 : W) (h : Rest diskOrig w0) (evs : List Ev)
    (first : Outcome) :
    Rest diskOrig (runMainW w0 evs first) ∧ Rest diskOrig (runCheckOnlyW w0 first) :=
  ⟨(runMainW_rest diskOrig [] _ w0 evs first rfl (beginRun_rest _ w0 _ h.disk h.tc)).of_tests rfl,
    runCheckOnlyW_rest diskOrig w0 first h⟩

/-- a NEW JOB on a used `Lithium` object: the object may be in ANY state left behind by earlier runs (their log, counters,
remembered testcases — no invariant assumed); if the testcase was loaded afresh, so that it is what the file holds,
the run ends with the file byte-identical to the content it had during the most recent test OF THIS RUN that answered
'interesting' — the file as loaded if there was none.  (False before the fix `e531ec0`: a rejected original let the
previous job's result be written over the new file.) -/
theorem C01_new_job_on_used_object (w0 : W) (evs : List Ev) (first : Outcome) (htc : w0.testcase.content = w0.disk) :
    (runMainW w0 evs first).disk = lastAccepted ((runMainW w0 evs first).tests.drop w0.tests.length) w0.disk :=
  new_job_final w0 evs first htc

/-- inside the reduction loop the iterator's best testcase — the only thing a strategy can read
back and derive its next candidates from — is always the last accepted candidate: a rejected,
skipped or aborted candidate never becomes `best`. -/
theorem C01_best_is_last_accepted (diskOrig : Bytes) (w : W) (evs : List Ev) (h : Core diskOrig w) :
    (loop w evs).best.content = lastAccepted (loop w evs).tests diskOrig ∧
    (loop w evs).lastInteresting = some (loop w evs).best := by
  obtain ⟨ts, ht, hc⟩ := loop_core diskOrig [] _ w evs rfl h
  exact ⟨(hc.of_tests ht).best, (hc.of_tests ht).li⟩

/-- non-vacuity: accept the original, reject a candidate, accept another, then the strategy
writes junk into the file and fails: the file ends up holding the accepted candidate. -/
example :
    let t (ps : List Bytes) : Testcase := { before := [], parts := ps, reducible := ps.map (fun _ => true), after := [] }
    let w := runMain (t [[1], [2], [3]]) [1, 2, 3]
      [.propose (t [[1], [2]]) .reject, .propose (t [[1], [3]]) .accept, .write [9, 9], .strategyError] .accept
    w.disk = [1, 3] ∧ w.exit = .raised ∧ w.tests.length = 3 := by
  decide +kernel

end World
