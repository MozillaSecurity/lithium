/-
C02 — Interrupts, errors and kills never lose the last accepted version.
-/
import LithiumProofs.World

namespace World

/-- a run cut short at ANY point — the test raising (any exception class) at any test index, or
the strategy failing internally between any two tests — returns control with the file holding
the most recently accepted version.  (The statement does not even need the exit to be `raised`:
it is C01 for every way of ending.) -/
theorem C02_abort_restores (orig : Testcase) (diskOrig : Bytes) (evs : List Ev) (first : Outcome)
    (h : orig.content = diskOrig) (_habort : (runMain orig diskOrig evs first).exit = .raised) :
    (runMain orig diskOrig evs first).disk
      = lastAccepted (runMain orig diskOrig evs first).tests diskOrig :=
  new_job_final (fresh orig diskOrig) evs first h

/-- hook order for ANY history: the object in any prior state `w0` (earlier runs, their hooks and tests), any events, any
first verdict, however the run ends (returns, raises in a test, the strategy fails): the hooks and tests of THIS run are
init once, its tests, cleanup once — appended to what was there -/
theorem C02_hooks_any_history (w0 : W) (evs : List Ev) (first : Outcome) :
    (runMainW w0 evs first).trace = w0.trace ++ Hook.init ::
      ((runMainW w0 evs first).tests.drop w0.tests.length).map (fun r => Hook.test r.idx) ++ [Hook.cleanup] := by
  -- the init hook is the last thing before the first test
  rw [List.append_cons w0.trace]
  exact (runMainW_ran w0 evs first).trace

/-- the same on a fresh object: the init hook runs exactly once, before every test; the cleanup hook exactly once, after the
last test — however the run ends -/
theorem C02_hooks (orig : Testcase) (diskOrig : Bytes) (evs : List Ev) (first : Outcome)
    (h : orig.content = diskOrig) :
    (runMain orig diskOrig evs first).trace
      = Hook.init :: (runMain orig diskOrig evs first).tests.map (fun r => Hook.test r.idx) ++ [Hook.cleanup] :=
  C02_hooks_any_history (fresh orig diskOrig) evs first

/-- if the whole process is killed while test number k+1 is running, the temp directory as it
is at that moment already identifies the most recently accepted version: the highest-numbered
`*-interesting` copy (or `original` when there is none) holds exactly those bytes.
(`TestRec.tmp` is the directory content during that test.) -/
theorem C02_kill_durable (orig : Testcase) (diskOrig : Bytes) (evs : List Ev) (first : Outcome)
    (h : orig.content = diskOrig) (k : Nat) (hk : k < (runMain orig diskOrig evs first).tests.length) :
    recover (runMain orig diskOrig evs first).tests[k].tmp
      = some (lastAccepted ((runMain orig diskOrig evs first).tests.take k) diskOrig) := by
  refine ran_recover (runMainW_ran (fresh orig diskOrig) evs first) h ?_ (fun j b e => ?_) k hk
  · rw [fresh_start_tmp]
    exact congrArg some h
  · rw [fresh_start_tmp] at e
    cases e

/-- non-vacuity: an accepted candidate, then KeyboardInterrupt in the next test: the file is
restored, hooks ran once each, and inside the aborted test the newest interesting copy was
the accepted candidate -/
example :
    let t (ps : List Bytes) : Testcase := { before := [], parts := ps, reducible := ps.map (fun _ => true), after := [] }
    let w := runMain (t [[1], [2]]) [1, 2] [.propose (t [[1]]) .accept, .propose (t []) .raise] .accept
    w.exit = .raised ∧ w.disk = [1] ∧ w.trace = [.init, .test 1, .test 2, .test 3, .cleanup] ∧
      (w.tests[2]?.map (fun r => recover r.tmp)) = some (some [1]) := by
  decide +kernel

end World
