/-
C03 — minimize ends with a 1-minimal file.
-/
import LithiumProofs.MinimizeOne
import LithiumProofs.MinLoop
import LithiumModel.Load
import LithiumProofs.World

namespace Strat
open Testcase

/-- With a deterministic interestingness test `f` (ANY function of the candidate bytes, monotone
or not), smallest chunk size 1, repeat mode `last` or `always`, no time limit, any power-of-two or
other `--max ≥ 1`, `--repeat-first-round` or not, and any well-formed testcase whose atoms are
non-empty (C06): minimize ends with a file from which no single remaining reducible atom can be
deleted without the test rejecting the result. -/
theorem C03_one_minimal (cfg : Cfg) (f : Bytes → Bool) (clk : Clock) (t : Testcase) (h : t.WF)
    (hne : ∀ p ∈ t.parts, p ≠ []) (hmin : cfg.min = 1)
    (hrep : cfg.rep = .last ∨ cfg.rep = .always) (hstop : cfg.stopAfter = none) (hmax : 1 ≤ cfg.max) :
    let r := minimize cfg (fun _ c => f c) clk t
    ∀ i, i < r.best.len → f (rm1 r.best i).content = false := by
  have hstopAt : stopAt cfg clk = none := by simp [stopAt, hstop]
  obtain ⟨st, it, hi, hP, -, -, hexit⟩ :=
    minimize_inv cfg (fun _ c => f c) clk t h hmax (OneInv f) (OneInv f)
      (fun _ _ _ _ hp hr => oneInv_round hp hr) (fun _ _ ha hp => oneInv_attempt ha hp)
      (oneInv_init cfg f t hne hmin hmax)
  simp only
  rcases roundPhase_inl hexit with ⟨hd, -⟩ | ⟨hre, ⟨h0, e⟩ | ⟨-, e, hrd⟩⟩
  · simp [hstopAt, deadlinePassed] at hd
  · rw [e]
    intro i hi'
    omega
  · -- `break`: chunk size ≤ min chunk size = 1 and nothing was removed in the last round
    rw [e]
    obtain ⟨hle, hrm⟩ := roundDecision_none hrd
    have hcs : st.chunkSize = 1 := by
      have := hP.mc
      have := hi.cs
      omega
    intro i hi'
    have hrm' : st.removed = false := hrm.resolve_right (by rcases hrep with e | e <;> simp [e])
    exact hP.last hcs hrm' i (by rw [hcs] at hre; omega) hi'

/-- The property's follow-up clause at full strength ("consequently a follow-up run with
--chunk-size=1 on the result accepts no candidate and leaves the file unchanged"), here for the
symbol splitter: it is NOT claimed — it is false of the code, see the counterexample below and
the recorded finding `followup-resplit`. -/
def C03_followup_statement : Prop :=
  ∀ (d : Bytes) (f : Bytes → Bool) (t t2 : Testcase),
    (Load.loadSymbol Load.DEFAULT_CUT_BEFORE Load.DEFAULT_CUT_AFTER d).toOption = some t →
    (Load.loadSymbol Load.DEFAULT_CUT_BEFORE Load.DEFAULT_CUT_AFTER
      (minimize {} (fun _ c => f c) (fun _ => 0) t).best.content).toOption = some t2 →
    (minimize { min := 1, max := 1, rep := .never } (fun _ c => f c) (fun _ => 0) t2).best.content
      = (minimize {} (fun _ c => f c) (fun _ => 0) t).best.content

/-- `a]b;c` with a test that accepts exactly `a]b;c`, `ac` and the empty file: minimize ends
1-minimal at `ac` (atoms `a`, `c`), but `ac` re-loads as ONE atom, whose deletion is accepted. -/
theorem C03_followup_counterexample : ¬ C03_followup_statement := by
  intro h
  have := h [0x61, 0x5D, 0x62, 0x3B, 0x63]
    (fun c => c == [0x61, 0x5D, 0x62, 0x3B, 0x63] || c == [0x61, 0x63] || c == [])
    { before := [], parts := [[0x61], [0x5D, 0x62, 0x3B], [0x63]], reducible := [true, true, true], after := [] }
    { before := [], parts := [[0x61, 0x63]], reducible := [true], after := [] }
    (by decide +kernel) (by decide +kernel)
  revert this
  decide +kernel

/-- the part of the follow-up clause that does hold, for the first candidate: when the follow-up run
with `--chunk-size=1` starts from the very atoms that remained (re-splitting the result reproduces
them — always so in char mode) and the result `T` is 1-minimal (`C03_one_minimal`), its first
candidate, the deletion of the last atom, is not accepted: the best testcase stays `T`. -/
theorem C03_followup_partial (f : Bytes → Bool) (T : Testcase)
    (hmin1 : ∀ i, i < T.len → f (rm1 T i).content = false) (hlen : 1 ≤ T.len) :
    let st := minInit { min := 1, max := 1, rep := .never } T
    (attempt (fun _ c => f c) st { best := T }).2.best = T := by
  simp only
  have hcs : (minInit { min := 1, max := 1, rep := .never } T).chunkSize = 1 := by
    have := Util.lp2_pos T.len
    simp only [minInit_chunkSize]
    omega
  have hce := minInit_chunkEnd { min := 1, max := 1, rep := .never } T
  exact attempt_keeps_best f _ { best := T } hcs (by rw [hce]; omega)
    (by rw [hce]; exact hmin1 _ (by simp only [Int.toNat_natCast]; omega))

/-- non-vacuity with a non-monotone test: lines a,b,c,d; interesting = {abcd, acd, ac, c} -/
example :
    let t : Testcase := { before := [], parts := [[1], [2], [3], [4]], reducible := [true, true, true, true], after := [] }
    let f : Bytes → Bool := fun c => c == [1, 2, 3, 4] || c == [1, 3, 4] || c == [1, 3] || c == [3]
    (minimize {} (fun _ c => f c) (fun _ => 0) t).best.parts = [[3]] := by
  decide +kernel

end Strat

namespace World

/-- the driver never answers for the test: a candidate whose bytes were not proposed before in this run IS handed to the
test (one more test in the log, with the candidate's bytes on disk), whatever the candidate looks like — a marker word in
it, an empty file, anything.  (1-minimality is a statement about what the TEST rejects; a driver that refuses candidates
itself would make it hold for the wrong reason.) -/
theorem C03_new_candidate_is_tested (w : W) (c : Testcase) (out : Outcome) (hnew : c.content ∉ w.tried) :
    (stepEv w (.propose c out)).tests = w.tests ++
      [{ idx := w.tmpCounter, disk := c.content, tmp := w.tmp, out := out }] := by
  rw [stepEv_propose, if_neg (by simpa using hnew)]
  rfl

end World
