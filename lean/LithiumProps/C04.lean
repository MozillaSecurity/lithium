/-
C04 — Chunk-removal strategies only ever delete reducible atoms.
(minimize, minimize-around and minimize-balanced without the experimental move.)
-/
import LithiumProofs.MinLoop
import LithiumProofs.PairsCand

namespace Strat
open Testcase

/-- `IsDel orig t`: `t` has the same protected prefix and suffix as `orig`, its (part, flag) list
is a sub-list of `orig`'s — nothing added, duplicated, reordered or altered — and it has exactly
`orig`'s non-reducible parts.  This is the property's "the original with zero or more reducible
atoms deleted". -/
example : IsDel = fun orig t =>
    t.before = orig.before ∧ t.after = orig.after ∧ t.WF ∧
    (t.parts.zip t.reducible).Sublist (orig.parts.zip orig.reducible) ∧
    (t.parts.zip t.reducible).filter (fun x => !x.2) = (orig.parts.zip orig.reducible).filter (fun x => !x.2) := rfl

/-- minimize, for EVERY test (any verdict sequence), every option setting, every clock and every
well-formed testcase: the final best and every proposal (tested or de-duplicated) is the
original with zero or more reducible atoms deleted; moreover every proposal is the current
best minus a non-empty range of its reducible atoms (the side condition `a ≤ b` of C07 holds at
the call site). -/
theorem C04_deletion_minimize (cfg : Cfg) (o : Oracle) (clk : Clock) (t : Testcase) (h : t.WF)
    (hmax : 1 ≤ cfg.max) :
    IsDel t (minimize cfg o clk t).best ∧
    ∀ a ∈ (minimize cfg o clk t).atts,
      IsDel t a.cand ∧ IsDel t a.base ∧ a.cand = a.base.rmslice a.lo a.hi ∧ a.lo < a.hi ∧ a.hi ≤ a.base.len := by
  have hdel := minimize_keeps (cfg := cfg) (allT_kept_chain (isDel_closed t) o clk _) t (allT_init (isDel_refl t h))
  -- the shape of a log entry is that of the block of the state it was made in
  obtain ⟨st', it', -, -, ea, hlog, -⟩ :=
    minimize_inv cfg o clk t h hmax (fun _ _ => True) (fun _ _ => True)
      (fun _ _ _ _ _ _ => trivial) (fun _ _ _ _ => trivial) trivial
  refine ⟨hdel.best, fun a ha => ?_⟩
  obtain ⟨st₁, it₁, r, ha1, -, rfl⟩ := hlog a (ea ▸ ha)
  obtain ⟨s1, s2, s3, -⟩ := minAtt_shape ha1
  exact ⟨(hdel.atts _ ha).1, (hdel.atts _ ha).2, s1, s2, s3⟩

/-- non-vacuity: a testcase with a non-reducible part in the middle; accept everything -/
example :
    let t : Testcase := { before := [0], parts := [[1], [2], [3]], reducible := [true, false, true], after := [9] }
    t.WF ∧ (minimize {} (fun _ _ => true) (fun _ => 0) t).best.parts = [[2]] ∧
      (minimize {} (fun _ _ => true) (fun _ => 0) t).best.reducible = [false] := by
  decide +kernel

/-- minimize-around and minimize-balanced (without the experimental move), for EVERY test, option
setting, clock and well-formed testcase: the final best, every proposal (tested or de-duplicated)
and the basis each proposal was built on is the original with zero or more reducible atoms
deleted. -/
theorem C04_deletion_pairs (cfg : Cfg) (o : Oracle) (clk : Clock) (t : Testcase) (h : t.WF) :
    (IsDel t (around cfg o clk t).best ∧
      ∀ a ∈ (around cfg o clk t).atts, IsDel t a.cand ∧ IsDel t a.base) ∧
    (IsDel t (balanced cfg o clk t).best ∧
      ∀ a ∈ (balanced cfg o clk t).atts, IsDel t a.cand ∧ IsDel t a.base) := by
  have ha : AllT (IsDel t) (around cfg o clk t) :=
    around_keeps (allT_kept_cut (isDel_closed t) o clk _) t (allT_init (isDel_refl t h))
  have hb : AllT (IsDel t) (balanced cfg o clk t) :=
    balanced_keeps (allT_kept_cut (isDel_closed t) o clk _) t (allT_init (isDel_refl t h))
  exact ⟨⟨ha.best, ha.atts⟩, ⟨hb.best, hb.atts⟩⟩

/-- non-vacuity: `(b)c` in char mode with non-reducible `b`, always-yes test: both strategies delete
reducible atoms only and keep the non-reducible part in place -/
example :
    let t : Testcase := { before := [0], parts := [[0x28], [0x62], [0x29], [0x63]], reducible := [true, false, true, true], after := [9] }
    t.WF ∧ (balanced {} (fun _ _ => true) (fun _ => 0) t).best.parts = [[0x28], [0x62]] ∧
      (around {} (fun _ _ => true) (fun _ => 0) t).best.parts = [[0x62], [0x29]] := by
  decide +kernel

end Strat
