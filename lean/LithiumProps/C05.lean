/-
C05 — Text outside the DDBEGIN/DDEND region is never modified.

Proved: what `load` protects (prefix through the DDBEGIN line, suffix from the DDEND line, and in
char mode the byte before it), and that every proposal and the final best of minimize,
minimize-around and minimize-balanced (with and without the experimental move) keep `before` and
`after` — for every test, clock and option setting.  `content` is `before ++ atoms ++ after`, so
the files start / end with those bytes.  Brace collapsing keeps them IF the re-load of a collapsed
text finds the same boundaries again; `C05_collapse_reload_counterexample` is an input on which it
does not (recorded finding).  Monitored on the real code, not proved: the two rewriting strategies
(DESIGN.md §4 C05).
-/
import LithiumProofs.PairsMove
import LithiumProofs.CollapseBound
import LithiumProofs.Load

namespace Strat
open Testcase Load

/-- what the file written for a testcase looks like -/
theorem C05_content_frame (t : Testcase) :
    t.content = t.before ++ (t.parts.flatten ++ t.after) ∧ t.before <+: t.content ∧ t.after <:+ t.content := by
  refine ⟨by simp [content], ?_, ?_⟩
  · exact ⟨t.parts.flatten ++ t.after, by simp [content]⟩
  · exact ⟨t.before ++ t.parts.flatten, by simp [content]⟩

/-- line and symbol mode (any delimiter sets): with a marker pair, `before` is exactly the lines
up to and including the first line mentioning a marker word (the DDBEGIN line) and `after` exactly
the lines from the first later line mentioning DDEND on; without markers nothing is protected -/
theorem C05_load_frame (sp : Splitter) (hsp : ∀ x s, sp x = .ok s → s.header = [] ∧ s.footer = [])
    (d : Bytes) (t : Testcase) (h : loadWith sp d = .ok t) :
    match (Lines.splitLines d).dropWhile (fun l => !mentionsAny l) with
    | [] => t.before = [] ∧ t.after = []
    | m :: rest =>
      match rest.dropWhile (fun l => !hasSub DDEND l) with
      | [] => False
      | e :: post =>
        t.before = ((Lines.splitLines d).takeWhile (fun l => !mentionsAny l)).flatten ++ m ∧
        t.after = e ++ post.flatten := by
  -- every successful case of `load` wraps the splitter's result in the protected parts
  have key : ∀ b a x, finish b a (sp x) = .ok t → t.before = b ∧ t.after = a := by
    intro b a x hf
    obtain ⟨s, hs, rfl⟩ := finish_ok b a _ t hf
    obtain ⟨h1, h2⟩ := hsp _ _ hs
    simp [Load.mk, h1, h2]
  rw [loadWith_spec] at h
  simp only at h
  split
  · rename_i hdw
    rw [hdw] at h
    exact key _ _ _ h
  · rename_i m rest hdw
    rw [hdw] at h
    simp only at h
    split at h
    · split
      · rename_i hdw2
        rw [hdw2] at h
        cases h
      · rename_i e post hdw2
        rw [hdw2] at h
        exact key _ _ _ h
    · cases h

/-- char mode: the last byte of the region (the end of the last reducible line's terminator) is
moved, unchanged, in front of the protected suffix -/
theorem C05_char_byte (t : Testcase) :
    (charPost t).before = t.before ∧
    ((t.before ≠ [] ∨ t.after ≠ []) → ∀ ps p, t.parts = ps ++ [p] →
      (charPost t).after = p ++ t.after ∧ (charPost t).parts = ps) := by
  unfold charPost
  refine ⟨by split <;> rfl, ?_⟩
  intro hba ps p hp
  have hc : ((!t.before.isEmpty || !t.after.isEmpty) && !t.parts.isEmpty) = true := by
    rw [hp]
    rcases hba with h | h
    · cases hb : t.before with
      | nil => exact absurd hb h
      | cons _ _ => simp
    · cases ha : t.after with
      | nil => exact absurd ha h
      | cons _ _ => simp
  rw [if_pos hc]
  simp [hp]

/-- minimize: every proposal and the final best keep `before` and `after` (the two hypotheses are
not used) -/
theorem C05_frame_minimize (cfg : Cfg) (o : Oracle) (clk : Clock) (t : Testcase) (h : t.WF) (hmax : 1 ≤ cfg.max) :
    ((minimize cfg o clk t).best.before = t.before ∧ (minimize cfg o clk t).best.after = t.after) ∧
    ∀ a ∈ (minimize cfg o clk t).atts, a.cand.before = t.before ∧ a.cand.after = t.after :=
  have k := frame_of_allT t _ (minimize_keeps (allT_kept_chain (frame_closed t) o clk _) t (allT_init ⟨rfl, rfl⟩))
  ⟨k.best, k.atts⟩

/-- minimize-around and minimize-balanced: every proposal and the final best keep `before`/`after` -/
theorem C05_frame_pairs (cfg : Cfg) (o : Oracle) (clk : Clock) (t : Testcase) :
    Frame t (around cfg o clk t) ∧ Frame t (balanced cfg o clk t) :=
  ⟨frame_of_allT t _ (around_keeps (allT_kept_cut (frame_closed t) o clk _) t (allT_init ⟨rfl, rfl⟩)),
    frame_of_allT t _ (balanced_keeps (allT_kept_cut (frame_closed t) o clk _) t (allT_init ⟨rfl, rfl⟩))⟩

/-- minimize-balanced WITH the experimental move: every proposal — removals and both kinds of
moves — and the final best keep `before` and `after`, for every test, clock and option setting
(a move re-orders `parts`/`reducible` of a copy of the best testcase and touches nothing else) -/
theorem C05_frame_move (cfg : Cfg) (o : Oracle) (clk : Clock) (t : Testcase) :
    Frame t (balancedMove cfg o clk t) :=
  balancedMove_frame cfg o clk t

/-- non-vacuity: `{ a }` where only the fourth test accepts: the pair cannot go, moving `a` behind
the closing brace is rejected, moving it in front of the opening brace is accepted -/
example :
    let t : Testcase := { before := [1], parts := [[0x7B], [0x61], [0x7D]], reducible := [true, true, true], after := [2] }
    ((balancedMove { move := true } (fun k _ => k == 3) (fun _ => 0) t).atts.reverse.map (fun a => (a.tag, a.cand.parts, a.resp))).take 5
      = [(2, [[0x7B], [0x61]], .rejected), (1, [[0x61]], .rejected), (9, [[0x7B], [0x7D], [0x61]], .rejected),
         (9, [[0x61], [0x7B], [0x7D]], .accepted), (2, [[0x7B], [0x7D]], .rejected)] := by
  decide +kernel

/-- minimize-collapse-brace: deletions never touch the protected prefix/suffix; the only step that can is
the re-load of a collapsed text.  IF re-loading `before ++ x ++ after` finds the same `before` and
`after` again (for every region text `x` the run produces), every proposal — deletions and collapsed
texts — and the final best keep them, for every test, clock and option setting.  The hypothesis is
exactly what the recorded finding below violates. -/
theorem C05_frame_collapse_cond (reload : Bytes → Option Testcase) (cfg : Cfg) (o : Oracle) (clk : Clock) (t : Testcase)
    (hre : ∀ x t', reload (t.before ++ x ++ t.after) = some t' → t'.before = t.before ∧ t'.after = t.after) :
    Frame t (collapse reload cfg o clk t) :=
  frame_of_allT t _ (collapse_keeps (allT_kept_chain (frame_closed t) o clk none)
    (fun it h => collapsePost_frame reload o t it hre h) t (allT_init ⟨rfl, rfl⟩))

/-- The recorded finding `collapse-reload-boundary` as a theorem about the model: symbol atoms, a DDEND
line that starts with the continuation bytes `80 A8`, and a verdict sequence under which `}y\n` is
deleted (leaving the lead byte `E2` in front of the DDEND line) before a brace pair collapses.  The
re-load of the collapsed text splits at the new U+2028, the first two bytes of the protected suffix
become reducible and are deleted: the final file no longer ends with the original suffix. -/
theorem C05_collapse_reload_counterexample :
    let data : Bytes := [0x2f,0x2f,0x20,0x44,0x44,0x42,0x45,0x47,0x49,0x4e,0x0a,0x67,0x7b,0x0a,0x5a,0x3b,0x0a,0x7d,0x78,0xe2,
      0x7d,0x79,0x0a,0x80,0xa8,0x20,0x44,0x44,0x45,0x4e,0x44,0x0a,0x74,0x61,0x69,0x6c,0x0a]
    let vs : List Bool := [false,false,false,false,false,true,false,true,false,false,true,false,true,true,true]
    let reload : Bytes → Option Testcase := fun d => (loadSymbol DEFAULT_CUT_BEFORE DEFAULT_CUT_AFTER d).toOption
    (reload data).map (fun t => (t.after, (collapse reload {} (fun k _ => vs.getD k false) (fun _ => 0) t).best.after))
      = some ([0x80,0xa8,0x20,0x44,0x44,0x45,0x4e,0x44,0x0a,0x74,0x61,0x69,0x6c,0x0a],
              [0x20,0x44,0x44,0x45,0x4e,0x44,0x0a,0x74,0x61,0x69,0x6c,0x0a]) := by
  decide +kernel

/-- non-vacuity: a char-mode file with markers and a CR before the DDEND line -/
example :
    (loadChar ([0x68, 0x0A] ++ DDBEGIN ++ [0x0A, 0x61, 0x62, 0x0D] ++ DDEND ++ [0x0A, 0x74])).toOption.map
      (fun t => (t.before, t.parts, t.after))
      = some ([0x68, 0x0A] ++ DDBEGIN ++ [0x0A], [[0x61], [0x62]], [0x0D] ++ DDEND ++ [0x0A, 0x74]) := by
  decide +kernel

end Strat
