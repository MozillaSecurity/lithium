/-
C06 — Splitting a file and writing it back is the identity.
(all five splitters)
-/
import LithiumProofs.Load
import LithiumProofs.Symbol
import LithiumProofs.SplitJsNe
import LithiumProofs.SplitAttrs

namespace Load

theorem C06_lines_flatten (d : Bytes) : (Lines.splitLines d).flatten = d :=
  Lines.splitLines_flatten d

/-- line mode: whatever the bytes, a successful load writes back the same bytes, every atom
is non-empty and there is exactly one flag per atom -/
theorem C06_roundtrip_line (d : Bytes) (t : Testcase) (h : loadLine d = .ok t) :
    t.content = d ∧ (∀ p ∈ t.parts, p ≠ []) ∧ t.WF :=
  loadWith_ok _ splitLine_ok d t h

theorem C06_roundtrip_symbol (B A : List UInt8) (d : Bytes) (t : Testcase)
    (h : loadSymbol B A d = .ok t) :
    t.content = d ∧ (∀ p ∈ t.parts, p ≠ []) ∧ t.WF :=
  loadWith_ok _ (splitSymbol_ok B A) d t h

theorem C06_roundtrip_char (d : Bytes) (t : Testcase) (h : loadChar d = .ok t) :
    t.content = d ∧ (∀ p ∈ t.parts, p ≠ []) ∧ t.WF := by
  rcases loadChar_cases d with ⟨t0, h0, h1⟩ | ⟨e, -, h1⟩
  · cases h1.symm.trans h
    exact charPost_ok t0 d (loadWith_ok _ splitChar_ok d t0 h0)
  · cases h1.symm.trans h

/-- attribute mode (`--attrs`): a successful load writes back the same bytes, every atom is non-empty and
there is exactly one flag per atom -/
theorem C06_roundtrip_attrs (d : Bytes) (t : Testcase) (h : Attrs.loadAttrs d = .ok t) :
    t.content = d ∧ (∀ p ∈ t.parts, p ≠ []) ∧ t.WF :=
  loadWith_ok _ Attrs.splitAttrs_ok d t h

/-- the attribute splitter never raises: the only failures are the two marker errors -/
theorem C06_no_internal_error_attrs (d : Bytes) (w : String) : Attrs.loadAttrs d ≠ .error (.internal w) :=
  loadWith_no_internal _ Attrs.splitAttrs_total d w

/-- JS-string mode: the bytes are reproduced, every part — string character, escape sequence, or the
text between them — is non-empty and has exactly one flag (the `chars` index list of the tokenizer
stays strictly increasing and in range through the back-tracking and the gap merge) -/
theorem C06_roundtrip_jsstr (d : Bytes) (t : Testcase) (h : Js.loadJs d = .ok t) :
    t.content = d ∧ (∀ p ∈ t.parts, p ≠ []) ∧ t.WF :=
  loadWith_ok _ Js.splitJs_ok d t h

/-- non-vacuity: `x='a\x41'+"b"` -/
example :
    (Js.loadJs [0x78, 0x3D, 0x27, 0x61, 0x5C, 0x78, 0x34, 0x31, 0x27, 0x2B, 0x22, 0x62, 0x22]).toOption.map
      (fun t => (t.before, t.parts, t.reducible, t.after))
      = some ([0x78, 0x3D, 0x27], [[0x61], [0x5C, 0x78, 0x34, 0x31], [0x27, 0x2B, 0x22], [0x62]], [true, true, false, true], [0x22]) := by
  decide +kernel

/-- the only failures of the line, char and symbol loaders are the two marker errors -/
theorem C06_no_internal_error (d : Bytes) (w : String) (B A : List UInt8) :
    loadLine d ≠ .error (.internal w) ∧ loadChar d ≠ .error (.internal w) ∧
      loadSymbol B A d ≠ .error (.internal w) := by
  refine ⟨loadWith_no_internal _ (fun x => ⟨_, rfl⟩) d w, ?_,
    loadWith_no_internal _ (fun x => ⟨_, rfl⟩) d w⟩
  intro h
  rcases loadChar_cases d with ⟨t0, -, h1⟩ | ⟨e, h0, h1⟩
  · cases h1.symm.trans h
  · cases h1.symm.trans h
    exact loadWith_no_internal splitChar (fun x => ⟨_, rfl⟩) d w h0

/-- non-vacuity: a char-mode file with markers whose last reducible line ends in CR -/
example :
    (loadChar ([0x61,0x0A] ++ DDBEGIN ++ [0x0A,0x78,0x0D] ++ DDEND ++ [0x0A])).toOption.map
      (fun t => (t.parts, t.after)) = some ([[0x78]], [0x0D] ++ DDEND ++ [0x0A]) := by
  decide +kernel

end Load
