/-
C07 — Deleting an index range deletes exactly those reducible atoms.
-/
import LithiumProofs.Rmslice
import LithiumProofs.Alias

namespace Testcase

/-- the property's words for index handling: negative values count from the end,
out-of-range values are clamped to `[0, n]` -/
def clampSpec (n : Nat) (x : Int) : Nat :=
  (min (max (if x < 0 then x + n else x) 0) n).toNat

/-- `_clamp` is that rule, for every integer; `None` selects the default. -/
theorem C07_clamp (n : Nat) (x : Int) (d : Nat) :
    clamp n (some x) d = clampSpec n x ∧ clamp n none d = d := by
  refine ⟨?_, rfl⟩
  simp only [clamp, clampSpec]
  split
  · -- `x < 0`: `max (x + n) 0` is already at most `n`
    rw [Int.min_eq_left (by omega), Int.add_comm]
  · split
    · -- `x > n`: cut down to `n`
      rw [Int.max_eq_left (by omega), Int.min_eq_right (by omega), Int.toNat_natCast]
    · -- `0 ≤ x ≤ n`: neither bound bites
      rw [Int.max_eq_left (by omega), Int.min_eq_left (by omega)]

/-- The reported length is the number of reducible atoms. -/
theorem C07_len_counts (t : Testcase) (h : t.WF) : t.len = t.reducible.count true :=
  len_eq_count t h

/-- For every well-formed testcase and every pair of bounds (any integers
or `None`) with `clamp a ≤ clamp b`, `copy()+rmslice(a, b)` does not raise, leaves
`before`/`after` alone, keeps the two lists aligned, removes exactly the reducible atoms
of rank `clamp a … clamp b - 1` (everything else keeps bytes, flag and order), and the
reported length drops by exactly the number removed. -/
theorem C07_rmslice_spec (t : Testcase) (h : t.WF) (a b : Option Int)
    (hab : clamp t.len a 0 ≤ clamp t.len b t.len) :
    ∃ t', t.rmslice? a b = some t' ∧ t'.before = t.before ∧ t'.after = t.after ∧ t'.WF ∧
      t'.parts.zip t'.reducible
        = eraseRanks (clamp t.len a 0) (clamp t.len b t.len) 0 (t.parts.zip t.reducible) ∧
      t'.len = t.len - (clamp t.len b t.len - clamp t.len a 0) :=
  rmslice_spec t h a b hab

/-- non-vacuity: a concrete testcase with both kinds of parts meets the hypotheses, and the
deletion removes what the statement says. -/
example :
    let t : Testcase := { before := [1], parts := [[10], [11], [12], [13]],
                          reducible := [true, false, true, true], after := [2] }
    t.WF ∧ clamp t.len (some (-2)) 0 ≤ clamp t.len (some 99) t.len ∧
    (t.rmslice? (some (-2)) (some 99)).map (·.parts) = some [[10], [11]] := by
  decide +kernel

end Testcase

namespace Alias

/-- "A copy is independent", for every history: start from one loaded testcase and apply ANY sequence of
`copy()`, `rmslice(a, b)` and in-place edits of an object's lists (`tc.reducible[i] = v`, `tc.parts[i] = v`) to
any of the objects that exist by then.  Whatever the next operation is, every object other than the one it is
applied to holds exactly the parts and flags it held before — and `copy()` leaves also the object it copies
unchanged.  (Heap model `Alias`: objects hold references to list objects; the invariant is that no two objects
ever share a list, `Alias.Inv`.) -/
theorem C07_copy_independent (parts : List Bytes) (flags : List Bool) (ops : List Op) (op : Op) (j : Nat)
    (hj : j < (run (init parts flags) ops).objs.length) (hne : j ≠ target op ∨ ∃ o, op = .copy o) :
    view (step (run (init parts flags) ops) op) j = view (run (init parts flags) ops) j :=
  step_others _ op (run_inv _ ops (inv_init parts flags)) j hj hne

/-- the copy looks like the original at the moment it is made -/
theorem C07_copy_equal (h : Heap) (o : Nat) (ob : Obj) (ho : h.objs[o]? = some ob) :
    view (step h (.copy o)) h.objs.length = view h o := by
  simp only [step, ho]
  rw [view_eq_some List.getElem?_concat_length, view_eq_some ho]
  simp only [upd_eq]

/-- and `rmslice` on an object is the pure function that `C07_rmslice_spec` speaks about -/
theorem C07_rmslice_on_object (h : Heap) (o : Nat) (a b : Option Int) (ps : List Bytes) (fs : List Bool) (t' : Testcase)
    (hv : view h o = some (ps, fs))
    (hr : ({ before := [], parts := ps, reducible := fs, after := [] } : Testcase).rmslice? a b = some t') :
    view (step h (.rmslice o a b)) o = some (t'.parts, t'.reducible) := by
  cases ho : h.objs[o]? with
  | none => simp [view, ho] at hv
  | some ob =>
    rw [view_eq_some ho] at hv
    cases hv
    have hlt : o < h.objs.length := (List.getElem?_eq_some_iff.mp ho).1
    simp only [step, ho, hr]
    rw [view_eq_some (List.getElem?_set_self hlt)]
    simp only [upd_eq]

/-- non-vacuity: copy, delete from the copy, flip a flag of the copy in place, copy the copy, delete from the
original: three objects that share no list; the first is complete but for its own deletion, the third, copied
from the second after its edits, holds equal contents -/
example :
    let h := run (init [[0x61], [0x62], [0x63]] [true, true, true])
      [.copy 0, .rmslice 1 (some 0) (some 1), .setFlag 1 0 false, .copy 1, .rmslice 0 (some 2) none]
    (view h 0, view h 1, view h 2) =
      (some ([[0x61], [0x62]], [true, true]), some ([[0x62], [0x63]], [false, true]), some ([[0x62], [0x63]], [false, true])) := by
  rfl

end Alias
