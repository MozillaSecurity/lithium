/-
C08 — DDBEGIN/DDEND select exactly the lines between the marker lines.
-/
import LithiumProofs.Load

namespace Load

/-- The marker rule, stated without loops, for every splitter and every file.
With `ls` the lines of the file and `m` the first line that mentions either word:
* no such line: the whole file is handed to the splitter, nothing is protected;
* `m` does not mention DDBEGIN (so it mentions only DDEND): `LithiumError` (DDEND without DDBEGIN);
* otherwise `m` opens the region — also when it mentions DDEND as well — and with `e` the first
  LATER line that mentions DDEND (also when it mentions DDBEGIN as well; lines that only
  mention DDBEGIN again are ordinary region lines):
  - no such line: `LithiumError` (DDBEGIN without DDEND);
  - else the splitter gets exactly the lines strictly between `m` and `e`; everything up to
    and including `m` is the protected prefix, everything from `e` on the protected suffix.
Errors are decided before the splitter is called. -/
theorem C08_load_spec (sp : Splitter) (d : Bytes) :
    loadWith sp d =
      (let ls := Lines.splitLines d
       match ls.dropWhile (fun l => !mentionsAny l) with
       | [] => finish [] [] (sp ls.flatten)
       | m :: rest =>
         if hasSub DDBEGIN m then
           match rest.dropWhile (fun l => !hasSub DDEND l) with
           | [] => .error .beginWithoutEnd
           | e :: post =>
             finish ((ls.takeWhile (fun l => !mentionsAny l)).flatten ++ m) (e ++ post.flatten)
               (sp (rest.takeWhile (fun l => !hasSub DDEND l)).flatten)
         else .error .endWithoutBegin) :=
  loadWith_spec sp d

/-- a file without markers is reducible as a whole: the splitter gets every byte -/
theorem C08_no_markers (sp : Splitter) (d : Bytes)
    (h : ∀ l ∈ Lines.splitLines d, mentionsAny l = false) :
    loadWith sp d = finish [] [] (sp d) := by
  rw [C08_load_spec]
  simp only
  have : (Lines.splitLines d).dropWhile (fun l => !mentionsAny l) = [] := by
    simpa using List.dropWhile_append_of_pos (p := fun l => !mentionsAny l) (l₂ := [])
      (fun l hl => by simp [h l hl])
  rw [this, Lines.splitLines_flatten]

/-- non-vacuity / the both-words rule on a concrete file:
`x\nDDBEGIN DDEND\na\nDDBEGIN\nb\nDDEND DDBEGIN\nc\n` protects the first two lines (a line with
both words opens), keeps the later DDBEGIN line inside the region, and closes at the line
with both words. -/
example :
    let f : Bytes := [0x78,0x0A] ++ DDBEGIN ++ [0x20] ++ DDEND ++ [0x0A,0x61,0x0A] ++ DDBEGIN ++
      [0x0A,0x62,0x0A] ++ DDEND ++ [0x20] ++ DDBEGIN ++ [0x0A,0x63,0x0A]
    (loadLine f).toOption.map (·.parts) = some [[0x61,0x0A], DDBEGIN ++ [0x0A], [0x62,0x0A]] := by
  decide +kernel

example : (match loadLine (DDEND ++ [0x0A]) with | .error .endWithoutBegin => true | _ => false) = true := by decide +kernel
example : (match loadLine (DDBEGIN ++ [0x0A, 0x61]) with | .error .beginWithoutEnd => true | _ => false) = true := by decide +kernel

end Load
