/-
C09 — Every strategy terminates within a bounded number of tests.
(minimize, minimize-around and minimize-balanced: the stated bound is a theorem.  collapse-brace:
termination without internal error and a bound in the number of BYTES are theorems for all five
splitters, the stated bound in the number of atoms is FALSE — `C09_collapse_regrows_counterexample`,
recorded finding.  The rewriting strategies: see DESIGN.md §4 C09 for what is partial.)
-/
import LithiumProofs.MinLoop
import LithiumProofs.PairsBound
import LithiumProofs.CollapseBound
import LithiumProofs.Rewrite
import LithiumProps.C06

namespace Strat
open Testcase

/-- minimize, against EVERY interestingness test (`o` may depend on the test index and on the
bytes in any way: adversarial, inconsistent, always-yes), for every well-formed testcase with
`n` reducible atoms, every `--min`, every `--max ≥ 1`, every repeat mode, `--repeat-first-round`
or not, with or without a time limit and under any clock: the loop terminates by itself (the
model's fuel is never exhausted), raises no internal error, and runs at most
`(n+1)*(n+ceil(log2 n)+2)` tests — `+1` with the initial check of the original. -/
theorem C09_bound_minimize (cfg : Cfg) (o : Oracle) (clk : Clock) (t : Testcase) (h : t.WF)
    (hmax : 1 ≤ cfg.max) :
    (minimize cfg o clk t).outOfFuel = false ∧ (minimize cfg o clk t).internalError = false ∧
    (minimize cfg o clk t).nTests + 1 ≤ (t.len + 1) * (t.len + clog2 t.len + 2) + 1 := by
  have hl2 := log2_start_le_clog2 cfg.max t.len
  obtain ⟨b1, b2, b3⟩ := minLoop_bound (cfg := cfg) (o := o) (clk := clk) (stopAt := stopAt cfg clk)
    sizeOK_len (postOK_id _ _) (minFuel t) _ _ (minInit_inv cfg t h hmax).loopInv (minimize_fuel cfg t)
  refine ⟨b1, b2, ?_⟩
  have := minInit_Phi_le cfg t Testcase.len t.len _ (Nat.le_refl _) (Nat.le_refl _) hl2
  rw [Nat.mul_comm (t.len + 1)]
  unfold minimize
  simp only [Nat.zero_add, Nat.one_mul, Nat.add_zero] at b3
  exact Nat.succ_le_succ (Nat.le_trans b3 (by simpa using this))

/-- non-vacuity and tightness probe: 3 lines, always-yes -/
example :
    let t : Testcase := { before := [], parts := [[1], [2], [3]], reducible := [true, true, true], after := [] }
    t.WF ∧ (minimize {} (fun _ _ => true) (fun _ => 0) t).nTests = 2 ∧
      (minimize {} (fun _ _ => true) (fun _ => 0) t).best.parts = [] := by
  decide +kernel

/-- minimize-around and minimize-balanced (without the experimental move), against EVERY
interestingness test, for every well-formed testcase with `n` reducible atoms, every `--min`,
every `--max ≥ 1`, every repeat mode, with or without a time limit and under any clock: the
strategy terminates by itself (neither the outer loop nor a pass exhausts the model's fuel),
never fails the `assert` of the balanced pass nor raises another internal error, and runs at most
`(n+1)*(n+ceil(log2 n)+2)` tests — `+1` with the initial check of the original. -/
theorem C09_bound_pairs (cfg : Cfg) (o : Oracle) (clk : Clock) (t : Testcase) (h : t.WF)
    (hmax : 1 ≤ cfg.max) :
    ((around cfg o clk t).outOfFuel = false ∧ (around cfg o clk t).internalError = false ∧
      (around cfg o clk t).nTests + 1 ≤ (t.len + 1) * (t.len + clog2 t.len + 2) + 1) ∧
    ((balanced cfg o clk t).outOfFuel = false ∧ (balanced cfg o clk t).internalError = false ∧
      (balanced cfg o clk t).nTests + 1 ≤ (t.len + 1) * (t.len + clog2 t.len + 2) + 1) :=
  have ha := pairs_bound cfg clk t h hmax _ (fun cs it hw hcs => aroundPass_ok o clk _ cs it hw hcs)
  have hb := pairs_bound cfg clk t h hmax _ (fun cs it hw hcs => balPass_ok o clk _ cs it hw hcs)
  ⟨⟨ha.1, ha.2.1, Nat.succ_le_succ ha.2.2⟩, ⟨hb.1, hb.2.1, Nat.succ_le_succ hb.2.2⟩⟩

/-- non-vacuity: `{`,`a`,`}`,`b` always-yes: balanced runs 2 tests, around 1 (the initial check of the
original not counted) -/
example :
    let t : Testcase := { before := [], parts := [[0x7B], [0x61], [0x7D], [0x62]], reducible := [true, true, true, true], after := [] }
    t.WF ∧ (balanced {} (fun _ _ => true) (fun _ => 0) t).nTests = 2 ∧
      (around {} (fun _ _ => true) (fun _ => 0) t).nTests = 1 := by
  decide +kernel

/-- what is proved of a run of minimize-collapse-brace with `reload` as the re-loader -/
def CollapseOK (reload : Bytes → Option Testcase) (cfg : Cfg) (o : Oracle) (clk : Clock) (t : Testcase) : Prop :=
  (collapse reload cfg o clk t).outOfFuel = false ∧ (collapse reload cfg o clk t).internalError = false ∧
  (collapse reload cfg o clk t).nTests + 1
    ≤ 2 * ((t.content.length + Nat.log2 (t.content.length + 1) + 2) * (t.content.length + 1)) + 2

/-- minimize-collapse-brace with ANY of the five splitters as re-loader (symbol mode with any cut
sets), against EVERY test, every `--min`, `--max ≥ 1`, repeat mode, time limit and clock, on every
well-formed testcase with non-empty atoms: the strategy terminates by itself, raises no internal
error (when the loader refuses the collapsed text — deletions can form a DDBEGIN/DDEND word —
`_post_round_cb` catches the `LithiumError` and keeps the uncollapsed testcase for that round: `reload`
answers `none`), and runs at most
`2·(C+1)·(C+log2(C+1)+2) + 2` tests where `C` is the number of bytes of the file.  The measure is
the byte length of the best file — deleting atoms shortens it, collapsing never lengthens it
(`collapseSub_length`) and a file never has more atoms than bytes — because the number of atoms can
GROW over a collapse (next theorem). -/
theorem C09_collapse_terminates (B A : List UInt8) (cfg : Cfg) (o : Oracle) (clk : Clock) (t : Testcase)
    (h : t.WF) (hne : ∀ p ∈ t.parts, p ≠ []) (hmax : 1 ≤ cfg.max) :
    CollapseOK (fun d => (Load.loadLine d).toOption) cfg o clk t ∧
    CollapseOK (fun d => (Load.loadChar d).toOption) cfg o clk t ∧
    CollapseOK (fun d => (Load.loadSymbol B A d).toOption) cfg o clk t ∧
    CollapseOK (fun d => (Js.loadJs d).toOption) cfg o clk t ∧
    CollapseOK (fun d => (Attrs.loadAttrs d).toOption) cfg o clk t :=
  ⟨collapse_bound _ (reloadOK_of_roundtrip _ Load.C06_roundtrip_line) cfg o clk t h hne hmax,
   collapse_bound _ (reloadOK_of_roundtrip _ Load.C06_roundtrip_char) cfg o clk t h hne hmax,
   collapse_bound _ (reloadOK_of_roundtrip _ (Load.C06_roundtrip_symbol B A)) cfg o clk t h hne hmax,
   collapse_bound _ (reloadOK_of_roundtrip _ Load.C06_roundtrip_jsstr) cfg o clk t h hne hmax,
   collapse_bound _ (reloadOK_of_roundtrip _ Load.C06_roundtrip_attrs) cfg o clk t h hne hmax⟩

/-- The two rewriting strategies, as far as their ROUND SKELETON goes (`rwLoop`: which pass follows
which; what a pass does to the text is not modelled): if no pass runs more than `P` tests and the
passes never report more than `B` removed characters in total, the strategy ends by its `break` after
at most `B + log2 cs + 2` passes and `P·(B + log2 cs + 2)` tests, for every repeat mode and every
smallest chunk size `final ≥ 1`.  The two hypotheses are checked on the numbers the real
`try_making_globals` / `try_arguments_as_globals` report (harness/props/c09.py); for
replace-arguments-by-globals the second one can fail (recorded finding `replace-arguments-grows`). -/
theorem C09_rewrite_skeleton (rep : Repeat) (final cs B P : Nat) (pass : Nat → Nat × Nat) (hf : 1 ≤ final)
    (hP : ∀ k, (pass k).1 ≤ P) (hB : ∀ k, removedSum pass k ≤ B) :
    let r := rwLoop rep final pass (B + Nat.log2 cs + 3) 0 cs 0
    r.2.2 = true ∧ r.1 ≤ P * (B + Nat.log2 cs + 2) ∧ r.2.1 ≤ B + Nat.log2 cs + 2 := by
  simp only
  have hm : rwMeasure final B pass 0 cs ≤ B + Nat.log2 cs + 1 := by
    unfold rwMeasure
    split <;> simp [removedSum] <;> omega
  obtain ⟨a, b, c⟩ := rwLoop_bound rep final B P pass hf hP hB (B + Nat.log2 cs + 3) 0 cs 0 (by omega)
  refine ⟨a, ?_, by omega⟩
  have := Nat.mul_le_mul_right P (show rwMeasure final B pass 0 cs + 1 ≤ B + Nat.log2 cs + 2 by omega)
  rw [Nat.mul_comm]
  omega

/-- non-vacuity: chunk sizes 4, 2, 1 with one repeated last pass -/
example : rwLoop .last 1 (fun k => if k = 2 then (3, 5) else (2, 0)) 20 0 4 0 = (9, 4, true) := by decide +kernel

namespace Regrow
def data : Bytes := "a b x0{\n}x1{\n}x2{\n}x3{\n}x4{\n}x5{\n}".toUTF8.toList
def collapsed : Bytes := "a b x0{ }x1{ }x2{ }x3{ }x4{ }x5{ }".toUTF8.toList
def reload : Bytes → Option Testcase := fun d => (Load.loadSymbol [] [0x20] d).toOption
def suffixOK (c : Bytes) : Bool :=
  match reload collapsed with
  | some t => (List.range (t.parts.length + 1)).any (fun j => (t.parts.drop j).flatten == c)
  | none => false
def f (c : Bytes) : Bool := c == data || suffixOK c
end Regrow

/-- The recorded finding `collapse-regrows-atoms` as a theorem about the model: symbol atoms with
`--cut-after ' '` (and no cut-before characters), the file `a b x0{⏎}x1{⏎}…x5{⏎}` has 3 atoms;
collapsing makes every `{⏎}` a `{ }`, after whose space the re-load cuts: 9 atoms.  With the
(deterministic) test that accepts the original, the collapsed text and every atom-aligned suffix of
it, the run makes 49 tests — the stated bound for n = 3 atoms is `(3+1)·(3+2+2)+1 = 29`. -/
theorem C09_collapse_regrows_counterexample :
    (Regrow.reload Regrow.data).map (fun t => (t.len,
        (collapse Regrow.reload {} (fun _ c => Regrow.f c) (fun _ => 0) t).nTests + 1,
        (t.len + 1) * (t.len + clog2 t.len + 2) + 1)) = some (3, 49, 29) ∧
    (Regrow.reload Regrow.collapsed).map (·.len) = some 9 := by
  decide +kernel

end Strat
