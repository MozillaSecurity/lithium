/-
C10 — Monotone tests: exact core in O(m log n) tests.

Proved: the "returns exactly that core" half, for every n, every core, every clock, every
`--max ≥ 1`, both repeat modes that the property's "default options" allow; and the test-count
bound `(2m+1)*ceil(log2 n) + 5m + 8` (`C10_test_bound`, `C10_test_bound_default`) for every n
whose first chunk size is not cut by `--max` (default `--max` = 2^30: every n ≤ 2^31), by a
potential argument over the rounds (LithiumProofs/CoreBound.lean).  For n > 2^31 with the default
`--max` the bound is false of the code as well: the first round alone makes n / 2^30 tests
(`C10_bound_needs_max` shows the mechanism with `--max 1` and 16 atoms) — DESIGN.md §0, C10.
-/
import LithiumProofs.CoreBound
import LithiumProps.C03
import LithiumProps.C04

namespace Strat
open Testcase

/-- "a file is interesting exactly when it still contains a fixed set `core` of the original
atoms" — demanded of the files the strategy can build (the original with reducible atoms deleted,
`IsDel`, C04); the test may answer anything on other byte strings. -/
def CoreTest (t : Testcase) (core : List Bytes) (f : Bytes → Bool) : Prop :=
  ∀ c, IsDel t c → (f c.content = true ↔ ∀ p ∈ core, p ∈ c.parts)

/-- With pairwise distinct, non-empty atoms, a core of reducible atoms of the original and a test
that accepts exactly the files still containing the core: minimize with smallest chunk size 1,
repeat mode `last` (the default) or `always`, no time limit and any `--max ≥ 1` returns EXACTLY the
core — the (atom, flag) list of the result is the original's with every reducible atom outside the
core deleted, nothing else deleted, order kept; prefix and suffix are untouched. -/
theorem C10_exact_core (cfg : Cfg) (f : Bytes → Bool) (clk : Clock) (t : Testcase) (core : List Bytes)
    (h : t.WF) (hne : ∀ p ∈ t.parts, p ≠ []) (hdistinct : t.parts.Nodup)
    (hcore : ∀ p ∈ core, (p, true) ∈ t.parts.zip t.reducible) (hf : CoreTest t core f)
    (hmin : cfg.min = 1) (hrep : cfg.rep = .last ∨ cfg.rep = .always) (hstop : cfg.stopAfter = none)
    (hmax : 1 ≤ cfg.max) :
    let r := minimize cfg (fun _ c => f c) clk t
    r.best.parts.zip r.best.reducible
        = (t.parts.zip t.reducible).filter (fun x => !x.2 || core.contains x.1) ∧
      r.best.before = t.before ∧ r.best.after = t.after := by
  simp only
  -- the result is a deletion of the original (C04), 1-minimal (C03), and the original or accepted
  obtain ⟨hdel, -⟩ := C04_deletion_minimize cfg (fun _ c => f c) clk t h hmax
  have hmin1 := C03_one_minimal cfg f clk t h hne hmin hrep hstop hmax
  have hacc := minimize_keeps (cfg := cfg) (accepted_kept f t clk _ CutChain) t (Or.inl rfl)
  have hR := R_of_one_minimal f t _ core (coreTest_R h hdistinct hcore hf)
    (fun p hp => (mem_R_iff t p).mpr (hcore p hp)) hdel hacc hmin1
  exact ⟨hdel.zip_eq_filter h hdistinct _ fun p _ => (hR p).trans List.contains_iff_mem.symm, hdel.before_eq, hdel.after_eq⟩

/-- consequence in bytes: the file written at the end is prefix + the surviving atoms + suffix -/
theorem C10_exact_core_parts (cfg : Cfg) (f : Bytes → Bool) (clk : Clock) (t : Testcase) (core : List Bytes)
    (h : t.WF) (hne : ∀ p ∈ t.parts, p ≠ []) (hdistinct : t.parts.Nodup)
    (hcore : ∀ p ∈ core, (p, true) ∈ t.parts.zip t.reducible) (hf : CoreTest t core f)
    (hmin : cfg.min = 1) (hrep : cfg.rep = .last ∨ cfg.rep = .always) (hstop : cfg.stopAfter = none)
    (hmax : 1 ≤ cfg.max) :
    (minimize cfg (fun _ c => f c) clk t).best.parts
      = ((t.parts.zip t.reducible).filter (fun x => !x.2 || core.contains x.1)).map (·.1) := by
  obtain ⟨h1, -, -⟩ := C10_exact_core cfg f clk t core h hne hdistinct hcore hf hmin hrep hstop hmax
  rw [← h1]
  have hwf : (minimize cfg (fun _ c => f c) clk t).best.WF :=
    (C04_deletion_minimize cfg (fun _ c => f c) clk t h hmax).1.wf
  exact (zip_map_fst _ hwf).symm

/-- The other half of the property: with distinct non-empty atoms, a duplicate-free core of
reducible atoms and a test that accepts exactly the files still containing the core, minimize with
smallest chunk size 1, repeat mode `last`, no repeated first round and a `--max` that does not cut
the first chunk size (`largest_power_of_two_smaller_than(n) ≤ max`) makes, the initial check of the
original included, at most `(2m+1)*ceil(log2 n) + 5m + 8` tests — for EVERY n, every core, every
clock and every time limit (a run that is cut short by the time limit makes fewer tests). -/
theorem C10_test_bound (cfg : Cfg) (f : Bytes → Bool) (clk : Clock) (t : Testcase) (core : List Bytes)
    (h : t.WF) (hne : ∀ p ∈ t.parts, p ≠ []) (hdistinct : t.parts.Nodup) (hcn : core.Nodup)
    (hcore : ∀ p ∈ core, (p, true) ∈ t.parts.zip t.reducible) (hf : CoreTest t core f)
    (hmin : cfg.min = 1) (hrep : cfg.rep = .last) (hrf : cfg.repeatFirst = false)
    (hmax : Util.lp2 t.len ≤ cfg.max) :
    (minimize cfg (fun _ c => f c) clk t).nTests + 1
      ≤ (2 * core.length + 1) * clog2 t.len + 5 * core.length + 8 :=
  core_test_bound cfg f clk t core ⟨h, hdistinct, hcn, hcore, hf⟩ hne hmin hrep hrf hmax

/-- with the default options (`{}`: min 1, max 2^30, repeat last) the bound holds for every file
of at most 2^31 atoms -/
theorem C10_test_bound_default (f : Bytes → Bool) (clk : Clock) (t : Testcase) (core : List Bytes)
    (h : t.WF) (hne : ∀ p ∈ t.parts, p ≠ []) (hdistinct : t.parts.Nodup) (hcn : core.Nodup)
    (hcore : ∀ p ∈ core, (p, true) ∈ t.parts.zip t.reducible) (hf : CoreTest t core f)
    (hn : t.len ≤ 2 ^ 31) :
    (minimize {} (fun _ c => f c) clk t).nTests + 1
      ≤ (2 * core.length + 1) * clog2 t.len + 5 * core.length + 8 := by
  refine C10_test_bound {} f clk t core h hne hdistinct hcn hcore hf rfl rfl rfl ?_
  exact Util.lp2_le_pow t.len 30 hn

/-- the hypothesis on `--max` is needed: when `--max` cuts the first chunk size the first round alone
makes `n / max` tests.  Here `--max 1`, 16 one-byte atoms, empty core (every file is interesting):
17 tests against a bound of 12.  With the default `--max` = 2^30 the same happens from n > 2^31
atoms on, which is why `C10_test_bound_default` stops there. -/
theorem C10_bound_needs_max :
    let t : Testcase := { before := [], parts := (List.range 16).map (fun i => [UInt8.ofNat i]),
                          reducible := List.replicate 16 true, after := [] }
    (minimize { max := 1 } (fun _ _ => true) (fun _ => 0) t).nTests + 1 = 17 ∧
      (2 * 0 + 1) * clog2 t.len + 5 * 0 + 8 = 12 := by
  decide +kernel

/-- the hypothesis `CoreTest` is satisfiable for every core: with one-byte atoms and core bytes
that do not occur in the protected prefix/suffix, "the file contains every core byte" is such a
test (a function of the bytes alone). -/
theorem coreTest_singletons (t : Testcase) (core : List UInt8) (h : t.WF) (hs : ∀ p ∈ t.parts, ∃ b, p = [b])
    (hb : ∀ b ∈ core, b ∉ t.before ∧ b ∉ t.after) :
    CoreTest t (core.map (fun b => [b])) (fun c => core.all (fun b => c.contains b)) := by
  intro c hc
  have hparts := hc.parts_sublist h
  simp only [List.all_eq_true, List.contains_eq_mem, decide_eq_true_eq, List.mem_map,
    forall_exists_index, and_imp, forall_apply_eq_imp_iff₂]
  constructor
  · intro hall b hbc
    have := hall b hbc
    unfold content at this
    rw [hc.before_eq, hc.after_eq] at this
    simp only [List.mem_append, List.mem_flatten] at this
    rcases this with (hin | ⟨p, hp, hbp⟩) | hin
    · exact absurd hin (hb b hbc).1
    · obtain ⟨b', rfl⟩ := hs p (hparts.subset hp)
      simp only [List.mem_singleton] at hbp
      subst hbp; exact hp
    · exact absurd hin (hb b hbc).2
  · intro hall b hbc
    unfold content
    simp only [List.mem_append, List.mem_flatten]
    exact Or.inl (Or.inr ⟨[b], hall b hbc, by simp⟩)

/-- non-vacuity: 6 distinct one-byte atoms (one of them not reducible), core = {2, 5}; the test is
a concrete function of the bytes that satisfies `CoreTest` on the whole deletion lattice. -/
example :
    let t : Testcase := { before := [9], parts := [[1], [2], [3], [4], [5], [6]],
                          reducible := [true, true, true, false, true, true], after := [9] }
    let f : Bytes → Bool := fun c => c.contains 2 && c.contains 5
    t.WF ∧ t.parts.Nodup ∧ (minimize {} (fun _ c => f c) (fun _ => 0) t).best.parts = [[2], [4], [5]] ∧
      (minimize {} (fun _ c => f c) (fun _ => 0) t).nTests + 1 ≤ (2 * 2 + 1) * clog2 5 + 5 * 2 + 8 := by
  decide +kernel

/-- the hypotheses of `C10_exact_core` are jointly satisfiable on that input -/
example :
    let t : Testcase := { before := [9], parts := [[1], [2], [3], [4], [5], [6]],
                          reducible := [true, true, true, false, true, true], after := [9] }
    CoreTest t [[2], [5]] (fun c => [2, 5].all (fun b => c.contains b)) ∧
      (∀ p ∈ [[2], [5]], (p, true) ∈ t.parts.zip t.reducible) ∧ (∀ p ∈ t.parts, p ≠ []) := by
  refine ⟨coreTest_singletons _ [2, 5] (by decide) ?_ (by decide), by decide, by decide⟩
  intro p hp
  simp only [List.mem_cons, List.not_mem_nil, or_false] at hp
  rcases hp with rfl | rfl | rfl | rfl | rfl | rfl <;> exact ⟨_, rfl⟩

end Strat
