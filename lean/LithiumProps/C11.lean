/-
C11 — An uninteresting original is left untouched; the exit status tells the outcome.
-/
import LithiumProofs.World

namespace World

/-- nothing to reduce (no reducible atom): no test, no write, status 0 -/
theorem C11_nothing_to_reduce (orig : Testcase) (diskOrig : Bytes) (evs : List Ev) (first : Outcome)
    (h0 : orig.len = 0) :
    let w := runMain orig diskOrig evs first
    w.tests = [] ∧ w.testCount = 0 ∧ w.diskWrites = 0 ∧ w.disk = diskOrig ∧ w.exit = .returned 0 := by
  simp [runMain, runMainW_eq, runFrom, finish_eq, dumpOriginal, beginRun, fresh, h0]

/-- The original is rejected, for ANY history: the `Lithium` object may have been used for any number of earlier runs and be
in any state `w0` whatsoever (whatever it accepted, wrote or remembers); if the test rejects — or raises on — the
original of THIS run, exactly one test is run, the file is not written (in particular not with what an earlier run
ended with) and the status is non-zero.  Holds since the fix that makes `run()` forget `last_interesting`; before
it, `w0.lastInteresting = some t` with `t.content ≠ w0.disk` was a counterexample (replayed on the real code by
`second_job_same_object`). -/
theorem C11_reject_original_any_history (w0 : W) (evs : List Ev) (h0 : w0.testcase.len ≠ 0) :
    let w := runMainW w0 evs .reject
    w.tests.length = w0.tests.length + 1 ∧ w.testCount = w0.testCount + 1 ∧ w.diskWrites = w0.diskWrites ∧
      w.disk = w0.disk ∧ w.exit = .returned 1 := by
  simp [runMainW_eq, runFrom, finish_eq, tested, dumpOriginal, beginRun, h0]

/-- the same on a fresh object: the test rejects the original: exactly one test ran, the testcase file was never opened for
writing, the status is 1 — for every strategy script -/
theorem C11_reject_original (orig : Testcase) (diskOrig : Bytes) (evs : List Ev) (h0 : orig.len ≠ 0) :
    let w := runMain orig diskOrig evs .reject
    w.tests.length = 1 ∧ w.testCount = 1 ∧ w.diskWrites = 0 ∧ w.disk = diskOrig ∧ w.exit = .returned 1 :=
  C11_reject_original_any_history (fresh orig diskOrig) evs h0

/-- the status clause for ANY history: the object in any prior state, the original accepted and something to reduce — the
run either raises or returns 0 exactly when a candidate was accepted IN THIS RUN (the tests after its first one), 1
otherwise; what earlier runs on the object accepted does not count -/
theorem C11_status_any_history (w0 : W) (evs : List Ev) (h0 : w0.testcase.len ≠ 0) :
    let w := runMainW w0 evs .accept
    w.exit = .raised ∨
      w.exit = .returned (if (w.tests.drop (w0.tests.length + 1)).any (fun r => r.out == .accept) then 0 else 1) := by
  have he := (runMainW_ran w0 evs .accept).exit
  rw [Ran.status, if_neg (show (dumpOriginal (beginRun w0)).testcase.len ≠ 0 from h0), if_pos rfl, List.tail_drop] at he
  exact he

/-- the same on a fresh object: the original is accepted: unless the run is aborted, the status is 0 exactly when at least
one later candidate was accepted, and 1 when nothing could be removed -/
theorem C11_status (orig : Testcase) (diskOrig : Bytes) (evs : List Ev) (h : orig.content = diskOrig)
    (h0 : orig.len ≠ 0) :
    let w := runMain orig diskOrig evs .accept
    w.exit = .raised ∨
      w.exit = .returned (if w.tests.tail.any (fun r => r.out == .accept) then 0 else 1) := by
  intro w
  rw [← List.drop_one]
  exact C11_status_any_history (fresh orig diskOrig) evs h0

-- Trap: the `match first with …` below elaborates to the matcher `World.C11_check_only.match_1`, named after the
-- first statement of this file that contains it and reused by `C11_check_only_any_history`.  A statement with the same
-- `match` placed before this one takes over the name and silently changes what both statements elaborate to, which a
-- tool that compares elaborated statements reports as two changed theorems.  Hence this pair stands in this order.
/-- check-only: exactly one test, the file is never written, status 0 exactly when the test
accepted (and the run is aborted exactly when the test raised) -/
theorem C11_check_only (orig : Testcase) (diskOrig : Bytes) (first : Outcome) (h : orig.content = diskOrig) :
    let w := runCheckOnly orig diskOrig first
    w.tests.length = 1 ∧ w.testCount = 1 ∧ w.diskWrites = 0 ∧ w.disk = diskOrig ∧
      w.exit = (match first with | .accept => .returned 0 | .reject => .returned 1 | .raise => .raised) :=
  have c := checkOnly_counts (fresh orig diskOrig) first
  have n := checkOnly_no_write (fresh orig diskOrig) first fun _ => h
  ⟨c.1, c.2.1, n.1, n.2, c.2.2.trans (by cases first <;> rfl)⟩

/-- check-only for ANY history: on an object in any state `w0` it makes exactly one test, the exit status tells the
verdict, and a test that does not accept leaves the file unwritten -/
theorem C11_check_only_any_history (w0 : W) (first : Outcome) :
    let w := runCheckOnlyW w0 first
    w.tests.length = w0.tests.length + 1 ∧ w.testCount = w0.testCount + 1 ∧
      (first ≠ .accept → w.diskWrites = w0.diskWrites ∧ w.disk = w0.disk) ∧
      w.exit = (match first with | .accept => .returned 0 | .reject => .returned 1 | .raise => .raised) :=
  have c := checkOnly_counts w0 first
  ⟨c.1, c.2.1, fun hne => checkOnly_no_write w0 first fun hf => absurd hf hne, c.2.2.trans (by cases first <;> rfl)⟩

/-- non-vacuity: accepted original, one rejected and one accepted candidate: status 0 -/
example :
    let t (ps : List Bytes) : Testcase := { before := [], parts := ps, reducible := ps.map (fun _ => true), after := [] }
    (runMain (t [[1], [2]]) [1, 2] [.propose (t [[1]]) .reject, .propose (t [[2]]) .accept] .accept).exit = .returned 0 ∧
    (runMain (t [[1], [2]]) [1, 2] [.propose (t [[1]]) .reject] .accept).exit = .returned 1 := by
  decide +kernel

end World
