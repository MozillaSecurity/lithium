/-
C12 — The temp directory is a faithful, duplicate-free log of all tests.
-/
import LithiumProofs.World

namespace World

/-- after one run on a fresh object, however it ends: the temp directory holds `original` with
the untouched original and, for the i-th test (counting from 1) that returned a verdict, the
file `i-interesting` / `i-boring` — tagged with that verdict — holding exactly the bytes the
testcase file contained during that test; the i-th test was handed the prefix `<tmpdir>/i`;
the reported number of tests is the number actually run. -/
theorem C12_tmp_log (orig : Testcase) (diskOrig : Bytes) (evs : List Ev) (first : Outcome)
    (h : orig.content = diskOrig) (h0 : orig.len ≠ 0) :
    let w := runMain orig diskOrig evs first
    w.tmp = (.original, diskOrig) :: (w.tests.filter (fun r => r.out != .raise)).map tagOf ∧
    (∀ k (hk : k < w.tests.length), w.tests[k].idx = k + 1) ∧
    w.testCount = w.tests.length := by
  have hr := runMainW_ran (fresh orig diskOrig) evs first
  subst h
  have ht := (hr.tmpLog rfl).tmp
  rw [fresh_start_tmp] at ht
  exact ⟨ht, fun k hk => (hr.idx k hk).trans (Nat.add_comm ..), hr.count.trans (Nat.zero_add _)⟩

/-- no two tests of a run see byte-identical files, except that the unmodified original
(the first test) may be presented once more: the files seen by the tests after the first
are pairwise distinct, so no verdict is paid for twice -/
theorem C12_no_duplicates (orig : Testcase) (diskOrig : Bytes) (evs : List Ev) (first : Outcome)
    (h : orig.content = diskOrig) (h0 : orig.len ≠ 0) :
    ((runMain orig diskOrig evs first).tests.tail.map (·.disk)).Nodup :=
  (runMainW_ran (fresh orig diskOrig) evs first).nodup

/-- non-vacuity: two different deletions of a file with repeated atoms give the same bytes;
the second is not tested; the original is proposed again and tested once more -/
example :
    let t (ps : List Bytes) : Testcase := { before := [], parts := ps, reducible := ps.map (fun _ => true), after := [] }
    let w := runMain (t [[1], [1], [2]]) [1, 1, 2]
      [.propose (t [[1], [2]]) .reject, .propose (t [[1], [2]]) .accept, .propose (t [[1], [1], [2]]) .reject] .accept
    w.tests.map (·.disk) = [[1, 1, 2], [1, 2], [1, 1, 2]] ∧ w.testCount = 3 ∧
    w.tmp.map (·.1) = [.original, .numbered 1 true, .numbered 2 false, .numbered 3 false] := by
  decide +kernel

end World
