/-
C13 — Pair strategies stop only at their own fixpoint.  The outer loop shared by the two strategies
can end only right after a pass that accepted nothing (`pairsOuter_quiet`: any pass function, any
test).  Under a deterministic test such a pass at chunk size 1 has proposed every deletion the
property names, and the best testcase is a shortest accepted content among those tried, so the test
rejects them all (`C13_around_fixpoint`, `C13_balanced_fixpoint`).  `C13_partner_characterised` says
which partner the search of minimize-balanced finds.
-/
import LithiumProofs.PairsFix
import LithiumProps.C09

namespace Strat

theorem pairsOuter_quiet (cfg : Cfg) (clk : Clock) (pass : Nat → It → It × Bool) (final : Nat)
    (hrep : cfg.rep = .last ∨ cfg.rep = .always) :
    ∀ (fuel cs : Nat) (it : It),
      (pairsOuter cfg clk none pass final fuel cs it).outOfFuel = false →
      (pairsOuter cfg clk none pass final fuel cs it).internalError = false →
      ∃ cs' it', cs' ≤ final ∧ (pass cs' it').2 = false ∧
        pairsOuter cfg clk none pass final fuel cs it = (pass cs' it').1 := by
  intro fuel cs it h1 h2
  obtain ⟨cs', it', hle, -, hq, he⟩ := pairsOuter_ends cfg clk pass final (fun _ _ => True) hrep
    (fun _ _ _ => trivial) (fun _ _ _ _ => trivial) fuel cs it trivial h1 h2
  exact ⟨cs', it', hle, hq, he⟩

/-- C13, "ends only when", for minimize-around and EVERY test and clock: with repeat `last`/`always`
and no time limit, a run that ends normally ends right after a pass at a chunk size ≤ max(min, 1)
in which nothing was accepted (the mechanism "outer loop repeats the last chunk size while a pass
removed something", strategies.py:564-595). -/
theorem C13_around_ends_after_quiet_pass (cfg : Cfg) (o : Oracle) (clk : Clock) (t : Testcase)
    (hrep : cfg.rep = .last ∨ cfg.rep = .always) (hstop : cfg.stopAfter = none)
    (h1 : (around cfg o clk t).outOfFuel = false) (h2 : (around cfg o clk t).internalError = false) :
    ∃ cs' it', cs' ≤ max cfg.min 1 ∧ (aroundPass o clk none cs' it').2 = false ∧
      around cfg o clk t = (aroundPass o clk none cs' it').1 := by
  have hs : stopAt cfg clk = none := by simp [stopAt, hstop]
  unfold around at h1 h2 ⊢
  simp only [hs] at h1 h2 ⊢
  exact pairsOuter_quiet cfg clk (fun cs it => aroundPass o clk none cs it) _ hrep _ _ _ h1 h2

/-- The same clause for minimize-balanced, which inherits the outer loop. -/
theorem C13_balanced_ends_after_quiet_pass (cfg : Cfg) (o : Oracle) (clk : Clock) (t : Testcase)
    (hrep : cfg.rep = .last ∨ cfg.rep = .always) (hstop : cfg.stopAfter = none)
    (h1 : (balanced cfg o clk t).outOfFuel = false) (h2 : (balanced cfg o clk t).internalError = false) :
    ∃ cs' it', cs' ≤ max cfg.min 1 ∧ (balPass o clk none cs' it').2 = false ∧
      balanced cfg o clk t = (balPass o clk none cs' it').1 := by
  have hs : stopAt cfg clk = none := by simp [stopAt, hstop]
  unfold balanced at h1 h2 ⊢
  simp only [hs] at h1 h2 ⊢
  exact pairsOuter_quiet cfg clk (fun cs it => balPass o clk none cs it) _ hrep _ _ _ h1 h2

/-- The hypotheses of `C13_balanced_ends_after_quiet_pass` can be met by a run in which a pair goes:
on `{ x } y` with a test that accepts only `x y`, minimize-balanced removes atom 0 together with
its partner 2 and ends normally (`outOfFuel = false`) at `x`,`y`. -/
example :
    let t : Testcase := { before := [], parts := [[0x7B], [0x78], [0x7D], [0x79]], reducible := [true, true, true, true], after := [] }
    (balanced {} (fun _ c => c == [0x78, 0x79]) (fun _ => 0) t).best.parts = [[0x78], [0x79]] ∧
    (balanced {} (fun _ c => c == [0x78, 0x79]) (fun _ => 0) t).outOfFuel = false := by
  decide +kernel

/-- **minimize-around stops only at its fixpoint.**  For EVERY deterministic test `f`, smallest
chunk size 1 (`--min` ≤ 1), repeat mode `last` or `always`, no time limit, any `--max ≥ 1`, any
clock, and every well-formed testcase with non-empty atoms: in the final testcase, for every
remaining atom `k` that still has a neighbour on both sides, the test rejects the file without
those two neighbours.  (`pairCand best k` is `best` minus atoms `k+1` and `k-1`.) -/
theorem C13_around_fixpoint (cfg : Cfg) (f : Bytes → Bool) (clk : Clock) (t : Testcase)
    (hwf : t.WF) (hne : ∀ p ∈ t.parts, p ≠ []) (hmin : cfg.min ≤ 1) (hmax : 1 ≤ cfg.max)
    (hrep : cfg.rep = .last ∨ cfg.rep = .always) (hstop : cfg.stopAfter = none) :
    ∀ k, 1 ≤ k → k + 1 < (around cfg (fun _ c => f c) clk t).best.len →
      f (pairCand (around cfg (fun _ c => f c) clk t).best k).content = false := by
  obtain ⟨⟨b1, b2, -⟩, -⟩ := C09_bound_pairs cfg (fun _ c => f c) clk t hwf hmax
  intro k hk1 hk2
  refine pairs_fixpoint f cfg clk (fun sa cs it => aroundPass (fun _ c => f c) clk sa cs it)
    (fun t c => ∃ k, 1 ≤ k ∧ k + 1 < t.len ∧ c = pairCand t k) t hwf hne hmin hmax hrep hstop
    (fun cs it => aroundPass_keeps (ginv_kept f clk none) cs it) (fun it hq hf _ => ?_) (fun t c hw hn ⟨k, h1, h2, e⟩ => ?_)
    _ rfl b1 b2 _ ⟨k, hk1, hk2, rfl⟩
  · obtain ⟨q1, q2⟩ := aroundPass_quiet f clk it hq hf
    exact ⟨q1, fun c ⟨k, h1, h2, e⟩ => e ▸ q2 k h1 h2⟩
  · -- the candidate is one of the pass's own proposals, hence strictly shorter
    exact (((around_sweep t 0).cut (aroundDef_proposes 1 0 (Nat.le_refl 1)) k h1 (by omega) c (e ▸ rfl)).candOK hw hn).shorter

/-- non-vacuity: five one-byte atoms `a b c d e`, the test accepts exactly the files that still
contain `b` and have an odd number of bytes: minimize-around removes the neighbours `a`,`c` of
`b`, ends with `b d e`, and the test rejects what is left when the neighbours of `d` go (`d`) -/
example :
    let t : Testcase := { before := [], parts := [[0x61], [0x62], [0x63], [0x64], [0x65]], reducible := [true, true, true, true, true], after := [] }
    let f : Bytes → Bool := fun c => c.contains 0x62 && c.length % 2 == 1
    (around {} (fun _ c => f c) (fun _ => 0) t).best.parts = [[0x62], [0x64], [0x65]] ∧
    f (pairCand (around {} (fun _ c => f c) (fun _ => 0) t).best 1).content = false := by
  decide +kernel

/-- **minimize-balanced stops only at its fixpoint.**  For EVERY deterministic test `f`, smallest
chunk size 1, repeat mode `last` or `always`, no time limit, any `--max ≥ 1`, any clock, and every
well-formed testcase with non-empty atoms: if at least two atoms remain in the final testcase then
for every remaining atom `j` the test rejects `balTarget best j` — the file without atom `j` when
its brackets are balanced, the file without `j` and its partner when they are not and the partner
search (`partnerOf`, characterised by `C13_partner_characterised`) finds one. -/
theorem C13_balanced_fixpoint (cfg : Cfg) (f : Bytes → Bool) (clk : Clock) (t : Testcase)
    (hwf : t.WF) (hne : ∀ p ∈ t.parts, p ≠ []) (hmin : cfg.min ≤ 1) (hmax : 1 ≤ cfg.max)
    (hrep : cfg.rep = .last ∨ cfg.rep = .always) (hstop : cfg.stopAfter = none) :
    2 ≤ (balanced cfg (fun _ c => f c) clk t).best.len →
    ∀ j, j < (balanced cfg (fun _ c => f c) clk t).best.len →
      ∀ c, balTarget (balanced cfg (fun _ c => f c) clk t).best j = some c → f c.content = false := by
  obtain ⟨-, b1, b2, -⟩ := C09_bound_pairs cfg (fun _ c => f c) clk t hwf hmax
  intro h2 j hj c hc
  refine pairs_fixpoint f cfg clk (fun sa cs it => balPass (fun _ c => f c) clk sa cs it)
    (fun t c => 2 ≤ t.len ∧ ∃ j, j < t.len ∧ balTarget t j = some c) t hwf hne hmin hmax hrep hstop
    (fun cs it => balPass_keeps (ginv_kept f clk none) cs it) (fun it hq hf he => ?_) (fun t c hw hn ⟨_, j, hj, hc⟩ => ?_)
    _ rfl b1 b2 _ ⟨h2, j, hj, hc⟩
  · obtain ⟨q1, q2⟩ := balPass_quiet f clk it hq hf he
    exact ⟨q1, fun c ⟨h2, j, hj, hc⟩ => q2 h2 j hj c hc⟩
  · exact (((bal_sweep t).cut (balDef_proposes 1 _ _ _ _ (Nat.le_refl 1)) j (Nat.zero_le j) hj c hc).candOK hw hn).shorter

/-- The partner used in `C13_balanced_fixpoint`, in the property's words: for an unbalanced atom
`j` the search reports a partner exactly when there is a first later atom `j + d` at which the
running balance of all three bracket kinds is back to zero with no kind negative (and not all
zero) at the atoms in between, and it reports that atom.  (The literal reading without "no kind
negative in between" is the recorded finding `partner-after-negative`, see
`C13_literal_partner_counterexample`.) -/
theorem C13_partner_characterised (t : Testcase) (j : Nat) (hj : j < t.len)
    (hz : balZero (balOf (balLists t).1 (balLists t).2.1 (balLists t).2.2 j) = false) :
    (balZero (partnerOf t j).2 = true →
      ∃ d, j + d < t.len ∧ (partnerOf t j).1 = j + d ∧
        FirstZero (balLists t).1 (balLists t).2.1 (balLists t).2.2 j (balOf (balLists t).1 (balLists t).2.1 (balLists t).2.2 j) d) ∧
    (∀ d, j + d < t.len →
      FirstZero (balLists t).1 (balLists t).2.1 (balLists t).2.2 j (balOf (balLists t).1 (balLists t).2.1 (balLists t).2.2 j) d →
      balZero (partnerOf t j).2 = true ∧ (partnerOf t j).1 = j + d) := by
  rw [partnerOf, List.drop_replicate]
  obtain ⟨h1, h2⟩ := findRhs_firstZero (List.replicate t.len true) _ _ _ (t.len - (j + 1)) j _ hz
  refine ⟨fun h => ?_, fun d hd hfz => h2 d (by omega) hfz⟩
  obtain ⟨d, hd, e, hfz⟩ := h1 h
  exact ⟨d, by omega, e, hfz⟩

/-- non-vacuity and the shape of the fixpoint: `{ x } y` with a test that needs `x`, `y` and
balanced braces: the brace pair goes together (atom 0 with its partner 2), the run ends with `x y`,
both atoms balanced, and the fixpoint speaks of the two single deletions, which leave `y` and `x`;
the test rejects both. -/
example :
    let t : Testcase := { before := [], parts := [[0x7B], [0x78], [0x7D], [0x79]], reducible := [true, true, true, true], after := [] }
    let f : Bytes → Bool := fun c => c.contains 0x78 && c.contains 0x79 && c.count 0x7B == c.count 0x7D
    (balanced {} (fun _ c => f c) (fun _ => 0) t).best.parts = [[0x78], [0x79]] ∧
    (balTarget (balanced {} (fun _ c => f c) (fun _ => 0) t).best 0).map (·.parts) = some [[0x79]] ∧
    (balTarget (balanced {} (fun _ c => f c) (fun _ => 0) t).best 1).map (·.parts) = some [[0x78]] := by
  decide +kernel

/-- The recorded finding `partner-after-negative` as a theorem about the model: lines `}`, `x`,
`{` and a test that accepts exactly the file `x`: the run ends with all three lines although
deleting `}` together with `{` — where the running balance first returns to zero — is accepted;
the search of the code gives up at `x` because the balance is negative there. -/
theorem C13_literal_partner_counterexample :
    let t : Testcase := { before := [], parts := [[0x7D], [0x78], [0x7B]], reducible := [true, true, true], after := [] }
    let f : Bytes → Bool := fun c => c == [0x78]
    (balanced {} (fun _ c => f c) (fun _ => 0) t).best = t ∧
    f ((t.rmslice 2 3).rmslice 0 1).content = true ∧ balTarget t 0 = none := by
  decide +kernel

/-- Why the property (and `C13_balanced_fixpoint`) says "if at least two atoms remain": with ONE atom left the pass
returns before proposing anything (`num_chunks < 2`, inherited from the surrounding-pairs pass, where a lone
atom has no neighbours), so a test that also accepts the empty file leaves the last line standing: lines `f(`,
`x`, `)`, `y`, `x` with `--max=1` and a test that asks for matching parentheses and for `y` wherever there is an
`x` end with `y` although deleting it is accepted.
Replayed on the real code (`Lithium.main --strategy=minimize-balanced --max=1`): same result. -/
theorem C13_one_atom_left_counterexample :
    let t : Testcase := { before := [], parts := [[0x66, 0x28, 0x0A], [0x78, 0x0A], [0x29, 0x0A], [0x79, 0x0A], [0x78, 0x0A]],
                          reducible := [true, true, true, true, true], after := [] }
    let f : Bytes → Bool := fun c => c.count 0x28 == c.count 0x29 && (!c.contains 0x78 || c.contains 0x79)
    (balanced { max := 1 } (fun _ c => f c) (fun _ => 0) t).best.parts = [[0x79, 0x0A]] ∧ f [] = true := by
  decide +kernel

end Strat
