/-
C14 — Chunk-size, repeat and time-limit options are honoured.
(minimize blocks, the `--min` clause, power-of-two refusal, --chunk-size, and the time limit of
minimize, minimize-around and minimize-balanced with and without the experimental move, are
theorems.  The resweep rule is proved at the round-end decision and for the `removed_chunks` flag of
one candidate: see DESIGN.md §4 C14 for what is partial.)
-/
import LithiumProofs.MinimizeSizes
import LithiumProofs.MinLoop
import LithiumProofs.PairsMove
import LithiumModel.Args

namespace Strat
open Testcase

/-- `is_power_of_two(k)` holds exactly for `k = 2^j`, for every integer `k` -/
theorem C14_pow2 (i : Int) : Util.isPowerOfTwo i = true ↔ ∃ j : Nat, i = (2 : Int) ^ j :=
  Util.isPowerOfTwo_iff i

/-- start-up refuses exactly the settings whose effective min or max is not a power of two
(`effective`: `--chunk-size=n` means min = max = n with repeat = never, else the given values);
an accepted setting is handed to the strategy unchanged -/
theorem C14_process_args (a : Args) :
    (∀ cfg, processArgs a = .ok cfg →
      (cfg.min : Int) = (effective a).1 ∧ (cfg.max : Int) = (effective a).2.1 ∧ cfg.rep = (effective a).2.2 ∧
      (∃ j : Nat, (effective a).1 = (2 : Int) ^ j) ∧ (∃ j : Nat, (effective a).2.1 = (2 : Int) ^ j)) ∧
    ((∃ e, processArgs a = .error e) ↔
      ¬ ((∃ j : Nat, (effective a).1 = (2 : Int) ^ j) ∧ (∃ j : Nat, (effective a).2.1 = (2 : Int) ^ j))) ∧
    (∀ c, a.chunkSize = some c → effective a = (c, c, .never)) ∧
    (a.chunkSize = none → effective a = (a.min, a.max, a.rep)) := by
  refine ⟨?_, ?_, by intro c hc; simp [effective, hc], by intro hc; simp [effective, hc]⟩
  · intro cfg hc
    rcases processArgs_cases a with ⟨-, e⟩ | ⟨-, -, e⟩ | ⟨h1, h2, e⟩ <;> rw [e] at hc
    · exact absurd hc (by simp)
    · exact absurd hc (by simp)
    · cases hc
      -- a power of two is not negative, so `toNat` loses nothing
      have cast : ∀ x : Int, (∃ j : Nat, x = (2 : Int) ^ j) → ((x.toNat : Nat) : Int) = x := by
        rintro x ⟨j, rfl⟩
        exact Int.toNat_of_nonneg (Int.pow_nonneg (by omega))
      exact ⟨cast _ h1, cast _ h2, rfl, h1, h2⟩
  · rcases processArgs_cases a with ⟨h1, e⟩ | ⟨-, h2, e⟩ | ⟨h1, h2, e⟩ <;> rw [e]
    · exact ⟨fun _ hn => h1 hn.1, fun _ => ⟨_, rfl⟩⟩
    · exact ⟨fun _ hn => h2 hn.2, fun _ => ⟨_, rfl⟩⟩
    · exact ⟨by rintro ⟨e, he⟩; simp at he, fun hn => absurd ⟨h1, h2⟩ hn⟩

/-- every minimize candidate deletes one contiguous, non-empty block `[lo, hi)` of reducible atoms
from the current best (`base`); the chunk size in force is a power of two, never exceeds the
effective maximum min(--max, largest power of two below the atom count), never increases from one
proposal to the next, and the block has exactly that many atoms unless it is the entire remainder
(which then has fewer atoms than the chunk size).  For every test, clock and repeat mode, and every
power-of-two --max. -/
theorem C14_blocks (cfg : Cfg) (o : Oracle) (clk : Clock) (t : Testcase) (h : t.WF)
    (hmax : ∃ k, cfg.max = 2 ^ k) :
    let r := minimize cfg o clk t
    let cs0 := min cfg.max (Util.lp2 t.len)
    (∀ a ∈ r.atts,
      a.cand = a.base.rmslice a.lo a.hi ∧ a.lo < a.hi ∧ a.hi ≤ a.base.len ∧
      (a.hi - a.lo = a.size ∨ (a.lo = 0 ∧ a.hi = a.base.len ∧ a.base.len < a.size)) ∧
      (∃ k, a.size = 2 ^ k) ∧ a.size ≤ cs0) ∧
    r.atts.Pairwise (fun newer older => newer.size ≤ older.size) := by
  have hmax1 : 1 ≤ cfg.max := by obtain ⟨k, hk⟩ := hmax; rw [hk]; exact Nat.one_le_two_pow
  obtain ⟨st', it', -, hP, ea, hlog, -⟩ :=
    minimize_inv cfg o clk t h hmax1 (SzInv (min cfg.max (Util.lp2 t.len))) (SzInv (min cfg.max (Util.lp2 t.len)))
      (fun _ _ _ _ hp hr => szInv_round hp hr) (fun _ _ _ hp => szInv_attempt hp)
      (szInv_init cfg t hmax)
  simp only
  rw [ea]
  refine ⟨fun a ha => ?_, hP.sorted⟩
  obtain ⟨st₁, it₁, r, ha1, hp1, rfl⟩ := hlog a ha
  obtain ⟨s1, s2, s3, s4⟩ := minAtt_shape ha1
  exact ⟨s1, s2, s3, s4, hp1.pow2, hp1.le⟩

/-- the time limit: every proposal of minimize (hence every test it starts) is made at a moment
when the clock has not passed `start + limit`; with a clock that never goes back, once the limit
has passed no further test is started.  (`h` and `hmax` are not used.) -/
theorem C14_deadline_minimize (cfg : Cfg) (o : Oracle) (clk : Clock) (t : Testcase) (h : t.WF)
    (hmax : 1 ≤ cfg.max) (limit : Nat) (hl : cfg.stopAfter = some limit) :
    (∀ a ∈ (minimize cfg o clk t).atts, clk a.tIdx ≤ clk 0 + limit) ∧
    ((∀ i j, i ≤ j → clk i ≤ clk j) → ∀ k, clk k > clk 0 + limit →
      ∀ a ∈ (minimize cfg o clk t).atts, a.tIdx < k) :=
  (minimize_keeps (onTime_kept o clk _ _) t (onTime_init _ clk t)).deadline hl

/-- non-vacuity: 9 atoms, --max 4: sizes 4,4,2,... -/
example :
    let t : Testcase := { before := [], parts := (List.range 9).map (fun i => [UInt8.ofNat i]),
                          reducible := List.replicate 9 true, after := [] }
    ((minimize { max := 4 } (fun _ _ => false) (fun _ => 0) t).atts.reverse.map (fun a => (a.lo, a.hi, a.size))).take 4
      = [(5, 9, 4), (1, 5, 4), (7, 9, 2), (6, 8, 2)] := by
  decide +kernel

/-- the `--min` clause: with power-of-two `--min ≤ --max`, a candidate of minimize deletes fewer than
`--min` atoms only once at most `--min` atoms remain — the chunk size in force is at least `--min`
or at most `--min` atoms are left, and a block smaller than the chunk size is the entire
remainder.  For every test, clock and repeat mode. -/
theorem C14_min_clause (cfg : Cfg) (o : Oracle) (clk : Clock) (t : Testcase) (h : t.WF)
    (hmax : ∃ k, cfg.max = 2 ^ k) (hmin : ∃ j, max cfg.min 1 = 2 ^ j) (hle : max cfg.min 1 ≤ cfg.max) :
    ∀ a ∈ (minimize cfg o clk t).atts,
      (max cfg.min 1 ≤ a.size ∨ a.bestLen ≤ max cfg.min 1) ∧
      (a.hi - a.lo < max cfg.min 1 → a.bestLen ≤ max cfg.min 1) := by
  obtain ⟨j, hj⟩ := hmin
  have hmax1 : 1 ≤ cfg.max := by obtain ⟨k, hk⟩ := hmax; rw [hk]; exact Nat.one_le_two_pow
  have hstart : MinOK (2 ^ j) (min cfg.max (Util.lp2 t.len)) t.len := by
    by_cases hc : 2 ^ j ≤ min cfg.max (Util.lp2 t.len)
    · exact Or.inl hc
    · exact Or.inr (Util.le_of_lp2_lt_pow t.len j (by omega))
  have hfloor : MinOK (2 ^ j) (minInit cfg t).minChunk t.len :=
    hstart.imp_left (fun h1 => by rw [minInit_minChunk]; omega)
  -- the chunk sizes are powers of two (`SzInv`), which the round end of `FloorInv` needs
  obtain ⟨st', it', -, -, ea, hlog, -⟩ :=
    minimize_inv cfg o clk t h hmax1
      (fun st it => SzInv (min cfg.max (Util.lp2 t.len)) st it ∧ FloorInv (2 ^ j) st it)
      (fun st it => SzInv (min cfg.max (Util.lp2 t.len)) st it ∧ FloorInv (2 ^ j) st it)
      (fun _ _ _ _ hp hr => ⟨szInv_round hp.1 hr, floorInv_round hp.2 hp.1.pow2 hr⟩)
      (fun _ _ ha hp => ⟨szInv_attempt hp.1, floorInv_attempt ha hp.2⟩)
      ⟨szInv_init cfg t hmax, hstart, hfloor⟩
  intro a ha
  rw [ea] at ha
  obtain ⟨st₁, it₁, r, ha1, hp1, rfl⟩ := hlog a ha
  obtain ⟨-, -, -, s4⟩ := minAtt_shape ha1
  rw [hj]
  refine ⟨hp1.2.chunk, fun hsmall => ?_⟩
  dsimp only [minAtt] at hsmall
  rcases hp1.2.chunk with h1 | h1
  · rcases s4 with hb | ⟨hb1, hb2, -⟩
    · rw [hb] at hsmall
      exact absurd h1 (Nat.not_le_of_lt hsmall)
    · rw [hb1, hb2, Nat.sub_zero] at hsmall
      exact Nat.le_of_lt hsmall
  · exact h1

/-- `n` distinct one-byte atoms -/
def atomsOf (n : Nat) : Testcase :=
  { before := [], parts := (List.range n).map (fun i => [UInt8.ofNat i]), reducible := List.replicate n true, after := [] }

/-- non-vacuity: `--min 4`, nothing accepted: on 9 atoms the blocks have 8, 4, 4 atoms and no smaller
size is swept; on 3 atoms the chunk size is 2 < 4 — at most `--min` atoms remain -/
example :
    ((minimize { min := 4 } (fun _ _ => false) (fun _ => 0) (atomsOf 9)).atts.reverse.map (fun a => (a.lo, a.hi, a.size)))
      = [(1, 9, 8), (5, 9, 4), (1, 5, 4)] ∧
    ((minimize { min := 4 } (fun _ _ => false) (fun _ => 0) (atomsOf 3)).atts.reverse.map (fun a => (a.lo, a.hi, a.size, a.bestLen)))
      = [(1, 3, 2, 3), (0, 2, 2, 3)] := by
  decide +kernel

/-- the resweep rule, at the round-end decision of minimize (`roundDecision` is the decision tree
at strategies.py:471-507; `st.removed` is the `removed_chunks` flag, which `attempt` sets exactly
when a candidate of the current sweep was accepted — `C14_removed_flag` — and every new sweep
starts with it cleared, except the first one under `--repeat-first-round`): the same chunk size is
swept again only after a sweep that removed something, never under `--repeat never`, and under
`--repeat last` only at the smallest chunk size; in every other case the next sweep uses a strictly
smaller chunk size, or the run ends. -/
theorem C14_resweep_decision (cfg : Cfg) (st st' : MinSt) (n : Nat) (hmc : 1 ≤ st.minChunk)
    (h : roundDecision cfg st n = some st') :
    st'.removed = false ∧
    ((st'.chunkSize = st.chunkSize ∧ st.removed = true ∧ cfg.rep ≠ .never ∧
        (cfg.rep = .last → st.chunkSize ≤ st.minChunk)) ∨
     st'.chunkSize < st.chunkSize) := by
  obtain ⟨cs', rfl, ⟨rfl, h1⟩ | ⟨rfl, hlt⟩⟩ := roundDecision_some h
  · exact ⟨rfl, Or.inl ⟨rfl, h1⟩⟩
  · obtain ⟨-, b⟩ := halveBelow_le_half st.chunkSize st.chunkSize n (by omega) (by omega)
    exact ⟨rfl, Or.inr (by show halveBelow st.chunkSize st.chunkSize n < st.chunkSize; omega)⟩

/-- `removed_chunks` after a candidate: set by an accepted one, otherwise unchanged -/
theorem C14_removed_flag (o : Oracle) (st : MinSt) (it : It) :
    (attempt o st it).1.removed = (st.removed || ((attempt o st it).2.atts.head?.map (·.resp) == some .accepted)) ∧
    (attempt o st it).1.chunkSize = st.chunkSize ∧ (attempt o st it).1.minChunk = st.minChunk := by
  rcases attempt_eq o st it with ⟨-, e⟩ | ⟨-, -, e⟩ | ⟨-, -, e⟩ <;> rw [e] <;> simp [minAtt]

/-- the time limit in minimize-around and minimize-balanced (without the experimental move): every
proposal — hence every test — is made at a moment when the clock has not passed `start + limit`;
with a clock that never goes back, once the limit has passed no further test is started.  For
EVERY test, option setting and testcase. -/
theorem C14_deadline_pairs (cfg : Cfg) (o : Oracle) (clk : Clock) (t : Testcase)
    (limit : Nat) (hl : cfg.stopAfter = some limit) :
    ((∀ a ∈ (around cfg o clk t).atts, clk a.tIdx ≤ clk 0 + limit) ∧
     (∀ a ∈ (balanced cfg o clk t).atts, clk a.tIdx ≤ clk 0 + limit)) ∧
    ((∀ i j, i ≤ j → clk i ≤ clk j) → ∀ k, clk k > clk 0 + limit →
      (∀ a ∈ (around cfg o clk t).atts, a.tIdx < k) ∧ (∀ a ∈ (balanced cfg o clk t).atts, a.tIdx < k)) := by
  have ka := (around_keeps (onTime_kept o clk _ _) t (onTime_init _ clk t)).deadline hl
  have kb := (balanced_keeps (onTime_kept o clk _ _) t (onTime_init _ clk t)).deadline hl
  exact ⟨⟨ka.1, kb.1⟩, fun hmono k hk => ⟨ka.2 hmono k hk, kb.2 hmono k hk⟩⟩

/-- the time limit in minimize-balanced WITH the experimental move: every proposal — removal or move —
is made at a moment when the clock has not passed `start + limit` (the move loop checks the clock at
its head and between its two attempts) -/
theorem C14_deadline_move (cfg : Cfg) (o : Oracle) (clk : Clock) (t : Testcase)
    (limit : Nat) (hl : cfg.stopAfter = some limit) :
    (∀ a ∈ (balancedMove cfg o clk t).atts, clk a.tIdx ≤ clk 0 + limit) ∧
    ((∀ i j, i ≤ j → clk i ≤ clk j) → ∀ k, clk k > clk 0 + limit →
      ∀ a ∈ (balancedMove cfg o clk t).atts, a.tIdx < k) :=
  (balancedMove_onTime cfg o clk t).deadline hl

/-- non-vacuity: the clock jumps past the limit after the second test of minimize-around: exactly
two tests are run -/
example :
    let t : Testcase := { before := [], parts := (List.range 6).map (fun i => [UInt8.ofNat i]),
                          reducible := List.replicate 6 true, after := [] }
    (around { stopAfter := some 10 } (fun _ _ => false) (fun k => if k < 2 then 0 else 100) t).nTests = 2 ∧
    (around { stopAfter := some 10 } (fun _ _ => false) (fun k => if k < 2 then 0 else 100) t).deadlineStop = true := by
  decide +kernel

end Strat
