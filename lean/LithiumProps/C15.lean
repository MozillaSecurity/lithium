/-
C15 — Line, char and symbol atoms follow their documented boundaries.
-/
import LithiumProofs.Load
import LithiumProofs.Symbol

namespace Load
open Lines

/-- line atoms: every atom except possibly the last ends with one of the line terminators
(LF, CR, VT, FF, FS, GS, RS, NEL, LS, PS — CR LF ends with LF) -/
theorem C15_line_terminated (d : Bytes) : AllButLast EndsWithTerm (splitLines d) :=
  splitAux_allButLast [] d

/-- a line feed occurs only as the final byte of an atom -/
theorem C15_line_lf_last (d : Bytes) : ∀ x ∈ splitLines d, LFOnlyLast x :=
  splitAux_lf [] d (by simp)

/-- a CR LF pair is never split between two atoms -/
theorem C15_line_crlf (d : Bytes) : NoCRLFSplit (splitLines d) :=
  splitAux_noSplit [] d

/-- the atoms of line mode are these lines, all reducible -/
theorem C15_line_atoms (d : Bytes) :
    splitLine d = .ok { parts := splitLines d, reducible := List.replicate (splitLines d).length true } :=
  rfl

/-- char atoms are the single bytes of the data, in order -/
theorem C15_char (d : Bytes) :
    ∃ s, splitChar d = .ok s ∧ s.parts = d.map (fun b => [b]) ∧ ∀ x ∈ s.parts, x.length = 1 := by
  refine ⟨_, rfl, rfl, ?_⟩
  intro x hx
  simp only [List.mem_map] at hx
  obtain ⟨b, _, rfl⟩ := hx
  rfl

/-- symbol atoms, for every pair of DISJOINT delimiter sets and every byte string: the atoms are
exactly the pieces obtained by cutting the data at every position whose left neighbour is a
cut-after byte or whose right neighbour is a cut-before byte (`cutSpec`), all reducible. -/
theorem C15_symbol_boundaries (B A : List UInt8) (hdisj : ∀ c, ¬ (B.contains c = true ∧ A.contains c = true))
    (d : Bytes) :
    splitSymbol B A d = .ok { parts := cutSpec B A d, reducible := List.replicate (cutSpec B A d).length true } := by
  simp only [splitSymbol]
  rw [symSplit_eq_cutSpec B A hdisj (d.length + 1) d (by omega)]

/-- the default sets are disjoint, so the theorem applies to them -/
theorem C15_default_sets_disjoint :
    ∀ c, ¬ (DEFAULT_CUT_BEFORE.contains c = true ∧ DEFAULT_CUT_AFTER.contains c = true) := by
  rintro c ⟨h1, h2⟩
  simp only [DEFAULT_CUT_BEFORE, List.contains_cons, List.contains_nil, Bool.or_false,
    Bool.or_eq_true] at h1
  -- `c` is one of `]`, `}`, `:`; none of them is in the other table
  rcases h1 with h | h | h <;> cases Lines.byte_eq h <;> exact Bool.false_ne_true h2

/-- the full statement (any two sets) is FALSE of the code: with a byte in both sets the regex
consumes it as a "cut-before" prefix and does not cut after it.  Recorded finding. -/
def C15_symbol_statement : Prop :=
  ∀ (B A : List UInt8) (d : Bytes),
    splitSymbol B A d = .ok { parts := cutSpec B A d, reducible := List.replicate (cutSpec B A d).length true }

theorem C15_symbol_overlap_counterexample : ¬ C15_symbol_statement := by
  intro h
  have := congrArg (fun r => r.toOption.map (·.parts)) (h [0x3B] [0x3B] [0x3B, 0x3B, 0x62])
  revert this
  decide +kernel

/-- non-vacuity: `a;b]c` with the default sets -/
example : cutSpec DEFAULT_CUT_BEFORE DEFAULT_CUT_AFTER [0x61, 0x3B, 0x62, 0x5D, 0x63]
    = [[0x61, 0x3B], [0x62], [0x5D, 0x63]] := by decide +kernel

end Load
