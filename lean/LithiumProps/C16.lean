/-
C16 — in JS-string and in attribute mode the reducible atoms are exactly the string characters / the attributes.

The theorems are about the Lean models of the two `split_parts` (`Js.splitJs`, `Attrs.splitAttrs`).  The JS side
is measured against a reference segmentation, `Js.specJs`.  That is a definition: that it means "inside a properly
terminated string" is not proved; the harness compares it with an independently written Python tokenizer.
That the JS parts are non-empty is C06 (`C06_roundtrip_jsstr`).
-/
import LithiumProofs.SplitJsNe
import LithiumProofs.SplitJsSpec
import LithiumProofs.SplitAttrsNext

namespace Js

/-- the token grammar `\uHHHH | \xHH | \u{H+} | \. | .` consumes at least one byte of a non-empty
input and never more than there is -/
theorem C16_js_token_progress (c : UInt8) (rest : Bytes) :
    1 ≤ tokLen (c :: rest) ∧ tokLen (c :: rest) ≤ (c :: rest).length :=
  tokLen_bounds c rest

/-- JS-string mode partitions the data: protected header, the parts, protected footer -/
theorem C16_js_partition (d : Bytes) (s : Load.Split) (h : splitJs d = .ok s) :
    s.header ++ s.parts.flatten ++ s.footer = d ∧ s.parts.length = s.reducible.length :=
  let ⟨h1, _, h3⟩ := splitJs_ok d s h
  ⟨h1, h3⟩

/-- JS-string mode: every reducible atom is ONE TOKEN of the escape grammar — an ordinary character,
`\uHHHH`, `\xHH`, `\u{H...}`, or a backslash pair — never a fragment of an escape sequence (the
last disjunct of `IsTok`, a lone backslash, can only be the very last byte of the data).  A corollary
of `C16_js_exact`: the flagged pieces of the reference segmentation are tokens by construction
(`SP_sat`). -/
theorem C16_js_tokens (d : Bytes) (s : Load.Split) (h : splitJs d = .ok s) :
    ∀ x ∈ s.parts.zip s.reducible, x.2 = true → IsTok x.1 := by
  rintro ⟨p, r⟩ hx rfl
  rw [mem_spans _ s.header.length, splitJs_spans d s h, strChars, ← mem_spans] at hx
  exact SP_sat d p hx

/-- JS-string mode, at full strength: list the reducible atoms of the split with their byte offsets
in the file (`spans … header.length`); list the string characters of the reference segmentation
with their byte offsets (`strChars d`, from `specJs`: characters and complete escape sequences
between an opening quote and the first matching closing quote; a quote whose string body runs to
the end of the data is ordinary text and scanning resumes right behind it).  The two lists are
EQUAL — no delimiting quote, no text outside a string, nothing of an unterminated string is ever
reducible, and nothing inside a terminated string is missing. -/
theorem C16_js_exact (d : Bytes) (s : Load.Split) (h : splitJs d = .ok s) :
    spans (s.parts.zip s.reducible) s.header.length = strChars d :=
  splitJs_spans d s h

/-- the reference segmentation on `x='a\x41'+"`: the two tokens of the terminated string at offsets
3 and 4; the unterminated `"` contributes nothing -/
example : strChars [0x78,0x3D,0x27,0x61,0x5C,0x78,0x34,0x31,0x27,0x2B,0x22] = [(3, [0x61]), (4, [0x5C,0x78,0x34,0x31])] := by
  decide +kernel

/-- an unterminated `'` does not hide the terminated `"…"` behind it: `'a"b"` -/
example : strChars [0x27,0x61,0x22,0x62,0x22] = [(3, [0x62])] := by
  decide +kernel

end Js

namespace Attrs

/-- attribute mode partitions the data into non-empty parts with one flag each, and never raises -/
theorem C16_attrs_partition (d : Bytes) :
    ∃ s, splitAttrs d = .ok s ∧ s.parts.flatten = d ∧ (∀ p ∈ s.parts, p ≠ []) ∧
      s.parts.length = s.reducible.length ∧ s.header = [] ∧ s.footer = [] := by
  obtain ⟨s, hg, hd, he⟩ := splitAttrs_good d
  refine ⟨_, he, ?_, hg.inv.ne, hg.inv.len, rfl, rfl⟩
  simpa [hd] using hg.inv.cat

/-- attribute mode: every reducible atom is ONE COMPLETE ATTRIBUTE — optional leading whitespace, a
name `[A-Za-z][A-Za-z0-9:-]*`, and then nothing (value-less), or `=` + a quoted value up to and
including the first matching closing quote, or `=` + an unquoted value that contains no whitespace
and no `>` (and does not begin with a quote).  Tag names, the closing `>`, and text that does not
parse as an attribute are never flagged reducible (they are pushed with the flag `false` only). -/
theorem C16_attrs_shape (d : Bytes) (s : Load.Split) (h : splitAttrs d = .ok s) :
    ∀ x ∈ s.parts.zip s.reducible, x.2 = true → IsAttr x.1 := by
  obtain ⟨_, hg, rfl⟩ := good_of_splitAttrs h
  exact hg.tag.ok.shape

/-- attribute mode: every reducible atom lies INSIDE A TAG — whenever the (atom, flag) list is
`l1 ++ (a, true) :: l2`, the list `l1` is `l0 ++ (o, false) :: mid` where the part `o` ends with a tag
opener (`<`, optional whitespace, a letter, tag-name characters) and `mid` holds only other complete
attributes and non-reducible text WITHOUT a `>`; and `a` itself is one complete attribute. -/
theorem C16_attrs_in_tag (d : Bytes) (s : Load.Split) (h : splitAttrs d = .ok s) :
    AttrsInTag (s.parts.zip s.reducible) := by
  obtain ⟨_, hg, rfl⟩ := good_of_splitAttrs h
  exact hg.tag.ok

/-- attribute mode: COMPLETE also means NOT CONTINUED.  Behind every reducible atom that does not end with a
quoted value (`…=q body q`) the next part of the file starts with white space or `>`: an unquoted value
and a value-less name are never cut short, also not at the end of the data (where the code gives up on
the tag instead of flagging what it has). -/
theorem C16_attrs_not_continued (d : Bytes) (s : Load.Split) (h : splitAttrs d = .ok s) :
    ∀ i a b r, (s.parts.zip s.reducible)[i]? = some (a, true) → (s.parts.zip s.reducible)[i + 1]? = some (b, r) →
      QuotedEnd a ∨ HeadTerm b := by
  obtain ⟨_, hg, rfl⟩ := good_of_splitAttrs h
  intro i a b r h1 h2
  obtain ⟨l1, l2, e⟩ := getElem?_succ_split h1 h2
  exact hg.next.nc l1 a b r l2 e

/-- non-vacuity: `<a b=cd` (the data ends inside an unquoted value): nothing is reducible; `<a b=cd e>`: ` b=cd` is -/
example : (splitAttrs [0x3C,0x61,0x20,0x62,0x3D,0x63,0x64]).toOption.map (fun s => s.reducible) = some [false, false] := by
  decide +kernel
example : (splitAttrs [0x3C,0x61,0x20,0x62,0x3D,0x63,0x64,0x20,0x65,0x3E]).toOption.map (fun s => (s.parts, s.reducible))
    = some ([[0x3C,0x61], [0x20,0x62,0x3D,0x63,0x64], [0x20,0x65], [0x3E]], [false, true, true, false]) := by
  decide +kernel

/-- non-vacuity: `<a b="c d" e>` -/
example :
    (splitAttrs [0x3C,0x61,0x20,0x62,0x3D,0x22,0x63,0x20,0x64,0x22,0x20,0x65,0x3E]).toOption.map
      (fun s => (s.parts, s.reducible))
      = some ([[0x3C,0x61], [0x20,0x62,0x3D,0x22,0x63,0x20,0x64,0x22], [0x20,0x65], [0x3E]], [false, true, true, false]) := by
  decide +kernel

end Attrs

namespace Js

/-- non-vacuity: `x='a\x41'+"` : the characters of the terminated string are reducible, the escape
is one atom, the unterminated `"` is ordinary text -/
example :
    (splitJs [0x78,0x3D,0x27,0x61,0x5C,0x78,0x34,0x31,0x27,0x2B,0x22]).toOption.map
      (fun s => (s.header, s.parts, s.reducible, s.footer))
      = some ([0x78,0x3D,0x27], [[0x61], [0x5C,0x78,0x34,0x31]], [true, true], [0x27,0x2B,0x22]) := by
  decide +kernel

end Js
