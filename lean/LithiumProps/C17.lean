/-
C17 — Command line: test arguments are isolated; the test name resolves predictably.

The option tables in `Generated/CmdlineTable.lean` are regenerated from the live argparse parsers on
every run; the theorems below are about the model of argparse's `_parse_known_args` restricted to
one trailing REMAINDER positional (`parseLoop`) and hold for EVERY table.  `WFTable` says when that model
applies to a parser at all; `C17_generated_wf` checks it on the regenerated tables.
-/
import LithiumProofs.Cmdline
import Generated.CmdlineTable

namespace Cmdline

/-- when `parseLoop`, which hard-wires one trailing `nargs=REMAINDER` positional and plain `-` options, models a
parser with this table; no theorem below takes it as a hypothesis -/
def WFTable (t : Table) : Prop := t.pos = .remainder ∧ t.plainArgs = true

instance (t : Table) : Decidable (WFTable t) := by unfold WFTable; exact inferInstance

/-- the tables Lithium builds have that shape (checked on the regenerated data: changing
`nargs=argparse.REMAINDER` in reducer.py, or giving a parser `fromfile_prefix_chars` / other
`prefix_chars`, breaks THIS proof obligation) -/
theorem C17_generated_wf :
    WFTable Generated.earlyTable ∧ ∀ t ∈ Generated.mainTables, WFTable t := by
  decide

/-- Tail isolation.  Let the command line be `pre ++ name :: tail` where `pre` is a sequence of
blocks — each a token the table classifies as an option (flag, cluster, `--opt=value`, unknown or
even erroneous), or an argument-taking option followed by its separate value token — and `name`
is the first token that is not an option.  Then, for EVERY tail (any tokens at all, `-c`,
`--strategy=...`, `--`, `-h`, ...): either parsing fails with an error that does not depend on
the tail, or it succeeds with a namespace that does not depend on the tail and hands
`name :: tail` — verbatim, in order — to the REMAINDER positional. -/
theorem C17_tail_isolation (t : Table) (pre : List (List Tok)) (name : Tok)
    (hpre : ∀ b ∈ pre,
      (∃ s, b = [s] ∧ s ≠ dd ∧ (∀ o n, classify t s = .opt o n none → (o.nargs == 0) = true) ∧
        ¬ (∃ _h : True, match classify t s with | .arg => True | _ => False)) ∨
      (∃ s v o n, b = [s, v] ∧ s ≠ dd ∧ classify t s = .opt o n none ∧ (o.nargs == 0) = false))
    (hname : ∃ _h : True, match classify t name with | .arg => True | _ => False) :
    (∃ p' : Parsed, ∀ tail, parseLoop t (pre.flatten ++ name :: tail) {} = .ok { p' with remainder := name :: tail }) ∨
    (∃ e q, ∀ tail, parseLoop t (pre.flatten ++ name :: tail) {} = .error e q) := by
  -- the `match` hypotheses say `classify t s ≠ .arg` and `classify t name = .arg`
  have harg : ∀ c : Cls, (∃ _h : True, match c with | .arg => True | _ => False) ↔ c = .arg := by
    intro c
    cases c <;> simp
  apply tail_isolation t pre _ name ((harg _).mp hname)
  intro b hb
  rcases hpre b hb with ⟨s, rfl, h1, h2, h3⟩ | ⟨s, v, o, n, rfl, h1, hc, hn⟩
  · refine local_single t s h1 (fun ⟨o, n, hc, hn⟩ => ?_) (fun e => h3 ((harg _).mpr e))
    rw [h2 o n hc] at hn
    cases hn
  · exact local_pair t s v h1 ⟨o, n, hc, hn⟩

/-- a token that does not start with `-` (a test name such as `crashes`, `./t.py`) is never an
option, in any table -/
theorem C17_name_is_positional (t : Table) (c : Char) (cs : List Char) (h : c ≠ '-') :
    classify t (c :: cs) = .arg := by
  unfold classify
  simp [h]

/-- the early parser never fails on ambiguity (its `error()` returns), so its choice of atom type
and strategy is a function of `parseLoop` alone -/
theorem C17_early_never_ambiguous (t : Table) (h : t.errorsPass = true) (argv : List Tok) :
    anyAmbiguous t argv = false := by
  unfold anyAmbiguous
  rw [List.any_eq_false]
  intro s _
  cases hc : classify t s with
  | ambiguous => exact absurd hc (classify_ne_ambiguous t s h)
  | _ => simp

/-- which file is reduced: `--testcase` if given, else the last command-line argument; the test
name is the first non-option token and the test receives the rest -/
theorem C17_testcase_choice (earlyT : Table) (mainT : Tok → Tok → Table) (argv : List Tok)
    (atom strategy : Tok) (ns : List (Tok × Tok)) (tc cond : Tok) (cargs : List Tok)
    (h : processArgs earlyT mainT argv = .ok atom strategy ns tc cond cargs) :
    (∀ v, lastValue ns "testcase".toList = some v → tc = v) ∧
    (lastValue ns "testcase".toList = none → tc = (cond :: cargs).getLast?.getD cond) := by
  have htc := processArgs_testcase _ _ _ _ _ _ _ _ _ h
  exact ⟨fun v hv => by rw [htc, hv]; rfl, fun hn => by rw [htc, hn]; rfl⟩

/-! ### recorded findings: the two places where the full property fails -/

/-- the early parser swallows everything after the separate value of an option it does not know:
`--min 2 --strategy=minimize-around -c t.py f` is parsed as strategy `minimize`, atom `line` -/
theorem C17_early_swallow_counterexample :
    early Generated.earlyTable
      ["--min".toList, "2".toList, "--strategy=minimize-around".toList, "-c".toList, "t.py".toList, "f".toList]
      = ("line".toList, "minimize".toList) := by
  decide +kernel

/-- a test argument that is a prefix of several Lithium options makes the main parser fail:
`t.py --m x f` -/
theorem C17_tail_ambiguous_counterexample :
    ∃ e q, parse (Generated.mainTables.getD 0 Generated.earlyTable)
      ["t.py".toList, "--m".toList, "x".toList, "f".toList] = .error e q := by
  refine ⟨"ambiguous option", {}, ?_⟩
  decide +kernel

/-- non-vacuity of the isolation theorem on the live main table: `--min=4 -c` before `t.py`,
a hostile tail after it -/
example :
    parse (Generated.mainTables.getD 0 Generated.earlyTable)
      ["--min=4".toList, "-c".toList, "t.py".toList, "-j".toList, "--".toList, "-h".toList, "f".toList]
    = .ok { ns := [("min".toList, "4".toList), ("atom".toList, "char".toList)],
            extras := [], seenExcl := some "-c".toList,
            remainder := ["t.py".toList, "-j".toList, "--".toList, "-h".toList, "f".toList] } := by
  decide +kernel

/-! ### test name resolution and sys.path (abstract model of `rel_or_abs_import`) -/

inductive Resolved where
  | atPath | inCwd | builtin | importError
deriving Repr, DecidableEq

/-- `rel_or_abs_import`: a path component → that location only; else the current directory; else
the built-in test of that name; else ImportError -/
def resolve (hasPath atPathOk inCwdOk builtinOk : Bool) : Resolved :=
  if hasPath then (if atPathOk then .atPath else .importError)
  else if inCwdOk then .inCwd
  else if builtinOk then .builtin
  else .importError

/-- `sys.path.append(dir)` ... `finally: sys.path.pop()` on every exit path -/
def sysPathAfter (before : List String) (dir : String) : List String := (before ++ [dir]).dropLast

theorem C17_import_order (hasPath a b c : Bool) :
    (hasPath = true → resolve hasPath a b c = (if a then .atPath else .importError)) ∧
    (hasPath = false → b = true → resolve hasPath a b c = .inCwd) ∧
    (hasPath = false → b = false → c = true → resolve hasPath a b c = .builtin) ∧
    (hasPath = false → b = false → c = false → resolve hasPath a b c = .importError) := by
  refine ⟨?_, ?_, ?_, ?_⟩
  · rintro rfl; rfl
  · rintro rfl rfl; rfl
  · rintro rfl rfl rfl; rfl
  · rintro rfl rfl rfl; rfl

theorem C17_syspath (before : List String) (dir : String) : sysPathAfter before dir = before := by
  simp [sysPathAfter]

/-- delete the LAST occurrence of `d`: the `finally` loop of `rel_or_abs_import` -/
def removeLast (d : String) (l : List String) : List String := (l.reverse.erase d).reverse

/-- `sys.path.append(dir)`; the imported test script prepends `P` and appends `Q` to `sys.path` while it
is imported; `finally`: the last occurrence of `dir` is deleted -/
def sysPathAfterScript (before : List String) (dir : String) (P Q : List String) : List String :=
  removeLast dir (P ++ (before ++ [dir]) ++ Q)

/-- the module search path is left as it was, plus what the test script itself added — Lithium's
temporary entry is gone wherever the script put its own (popping the last entry would lose the script's entry
and keep Lithium's: the example below) -/
theorem C17_syspath_script (before : List String) (dir : String) (P Q : List String) (hq : dir ∉ Q) :
    sysPathAfterScript before dir P Q = P ++ before ++ Q := by
  unfold sysPathAfterScript removeLast
  simp only [List.reverse_append, List.reverse_cons, List.reverse_nil, List.nil_append, List.append_assoc]
  have hq' : dir ∉ Q.reverse := by simpa using hq
  rw [List.erase_append_right _ hq']
  simp

/-- on a script that appends one entry: popping the last entry (`dropLast`) keeps Lithium's entry and loses the
script's; deleting the last occurrence of Lithium's does not -/
example : ((["a"] ++ ["tmpdir"] ++ ["helpers"]).dropLast, sysPathAfterScript ["a"] "tmpdir" [] ["helpers"])
    = (["a", "tmpdir"], ["a", "helpers"]) := by decide +kernel

end Cmdline
