/-
C18 — Child outcome classification and output capture are exact.
-/
import LithiumModel.Interest

namespace Interest

/-- for every way a child can end (`timedOut`, or any integer return code — negative for death by
a signal): TIMEOUT exactly when it was still running at the limit; otherwise NORMAL exactly for 0,
CRASH exactly for a signal (rc < 0), the sanitizer code 77 or a code ≥ 2^31, ABNORMAL for every
other code; no exit code is reported exactly on TIMEOUT; `crashes` is interesting exactly on CRASH
and `hangs` exactly on TIMEOUT. -/
theorem C18_classify (timedOut : Bool) (rc : Int) :
    ((classify timedOut rc).1 = .timeout ↔ timedOut = true) ∧
    ((classify timedOut rc).2 = none ↔ timedOut = true) ∧
    (timedOut = false →
      ((classify timedOut rc).1 = .normal ↔ rc = 0) ∧
      ((classify timedOut rc).1 = .crash ↔ (rc < 0 ∨ rc = 77 ∨ rc ≥ 2 ^ 31)) ∧
      ((classify timedOut rc).1 = .abnormal ↔ (0 < rc ∧ rc ≠ 77 ∧ rc < 2 ^ 31)) ∧
      (classify timedOut rc).2 = some rc) ∧
    (crashesInteresting timedOut rc = true ↔ (classify timedOut rc).1 = .crash) ∧
    (hangsInteresting timedOut rc = true ↔ timedOut = true) := by
  cases timedOut with
  | true => simp [classify, crashesInteresting, hangsInteresting]
  | false =>
    simp only [crashesInteresting, hangsInteresting, classify, Bool.false_eq_true, if_false]
    by_cases h0 : rc = 0
    · simp [h0]
    · rw [if_neg h0]
      by_cases h1 : rc ≠ 77 ∧ 0 < rc ∧ rc < 0x80000000
      · rw [if_pos h1]
        simp
        omega
      · rw [if_neg h1]
        simp
        omega

/-- output capture: in both capture modes the returned stdout / stderr are exactly the bytes the
child wrote before it exited or was killed at the limit — including output produced before a
timeout — so the two modes agree -/
theorem C18_capture (c : Child) (limit : Nat) (stderr : Bool) :
    capturePipe c limit stderr = written c limit stderr ∧
    captureFile c limit stderr = written c limit stderr := by
  refine ⟨?_, rfl⟩
  have hle : c.endTime limit ≤ limit := by
    unfold Child.endTime
    split
    · exact Nat.min_le_right _ _
    · exact Nat.le_refl _
  -- the end (exit or kill) is not after the limit: what is written before the end is written before the limit
  have hp : ∀ t : Nat, (decide (t ≤ limit) && decide (t ≤ c.endTime limit)) = decide (t ≤ c.endTime limit) := by
    intro t
    by_cases ht : t ≤ c.endTime limit
    · simp [ht, Nat.le_trans ht hle]
    · simp [ht]
  have hq : ∀ t : Nat, (!decide (t ≤ limit) && decide (t ≤ c.endTime limit)) = false := by
    intro t
    rw [← hp t]
    cases decide (t ≤ limit) <;> rfl
  unfold capturePipe written
  simp [hp, hq]

end Interest
