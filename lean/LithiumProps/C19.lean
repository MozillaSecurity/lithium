/-
C19 — outputs, diff_test and repeat decide exactly what they document.
`rx` stands for `re.search(pattern, ·, MULTILINE)` (uninterpreted: any predicate on bytes).
-/
import LithiumModel.Interest

namespace Interest

/-- `outputs`: interesting exactly when the search text (or, with --regex, a match of the
pattern) occurs in stdout or stderr — the same verdict whether output is captured in memory or
in log files -/
theorem C19_outputs (regex : Bool) (rx : Bytes → Bool) (s out err : Bytes) :
    outputsMem regex rx s out err = outputsFile regex rx s out err ∧
    (regex = false → (outputsMem regex rx s out err = true ↔ (Load.hasSub s out = true ∨ Load.hasSub s err = true))) ∧
    (regex = true → (outputsMem regex rx s out err = true ↔ (rx out = true ∨ rx err = true))) := by
  cases regex <;> simp [outputsMem, outputsFile]

/-- `diff_test`: interesting exactly when the two runs differ in exit status (`none` = timed out),
stdout or stderr -/
theorem C19_diff (a b : RunData) :
    diffTest a b = true ↔ (a.rc ≠ b.rc ∨ a.out ≠ b.out ∨ a.err ≠ b.err) := by
  unfold diffTest
  by_cases h : a.rc = b.rc
  · simp [h]
  · simp [h]

/-- with `(b, n) := repeatLoop inner k done`, the loop after `done` runs with `k` still allowed: `b` says whether a
run `done + 1 .. done + k` succeeds; if so `n` is the first such run, else `n = done + k` -/
theorem repeatLoop_spec (inner : Nat → Bool) (k done : Nat) :
    ((repeatLoop inner k done).1 = true ↔ ∃ i, done < i ∧ i ≤ done + k ∧ inner i = true) ∧
    ((repeatLoop inner k done).1 = true →
      done < (repeatLoop inner k done).2 ∧ (repeatLoop inner k done).2 ≤ done + k ∧
      inner (repeatLoop inner k done).2 = true ∧
      ∀ j, done < j → j < (repeatLoop inner k done).2 → inner j = false) ∧
    ((repeatLoop inner k done).1 = false → (repeatLoop inner k done).2 = done + k) := by
  induction k generalizing done with
  | zero =>
    exact ⟨⟨fun h => absurd h Bool.false_ne_true,
        fun ⟨i, a, b, _⟩ => absurd (Nat.lt_of_lt_of_le a b) (Nat.lt_irrefl _)⟩,
      fun h => absurd h Bool.false_ne_true, fun _ => rfl⟩
  | succ k ih =>
    have hle : done + 1 ≤ done + (k + 1) := Nat.succ_le_succ (Nat.le_add_right done k)
    unfold repeatLoop
    by_cases h : inner (done + 1) = true
    · rw [if_pos h]
      exact ⟨⟨fun _ => ⟨done + 1, Nat.lt_succ_self _, hle, h⟩, fun _ => rfl⟩,
        fun _ => ⟨Nat.lt_succ_self _, hle, h, fun j h1 h2 =>
          absurd (Nat.lt_of_lt_of_le h1 (Nat.le_of_lt_succ h2)) (Nat.lt_irrefl _)⟩,
        fun h' => Bool.noConfusion h'⟩
    · rw [if_neg h]
      -- the rest of the loop looks at `done + 2 .. done + 1 + k`
      obtain ⟨i1, i2, i3⟩ := ih (done + 1)
      rw [Nat.add_right_comm] at i1 i2 i3
      have h' : inner (done + 1) = false := by simpa using h
      refine ⟨i1.trans ⟨fun ⟨i, a, b, c⟩ => ⟨i, Nat.lt_of_succ_lt a, b, c⟩, fun ⟨i, a, b, c⟩ =>
        ⟨i, Nat.lt_of_le_of_ne a (fun e => h (e ▸ c)), b, c⟩⟩, fun ht => ?_, i3⟩
      obtain ⟨a, b, c, d⟩ := i2 ht
      refine ⟨Nat.lt_of_succ_lt a, b, c, fun j hj1 hj2 => ?_⟩
      by_cases hje : done + 1 = j
      · exact hje ▸ h'
      · exact d j (Nat.lt_of_le_of_ne hj1 hje) hj2

/-- `repeat N test ...`: interesting exactly when one of the runs 1..N of the inner test is;
it stops at the first success (the number of inner runs is the index of the first success, else
N); run `i` receives the arguments with the cookie replaced by `i` -/
theorem C19_repeat (n : Nat) (inner : Nat → Bool) :
    ((repeatTest n inner).1 = true ↔ ∃ i, 1 ≤ i ∧ i ≤ n ∧ inner i = true) ∧
    ((repeatTest n inner).1 = true →
      inner (repeatTest n inner).2 = true ∧ ∀ j, 1 ≤ j → j < (repeatTest n inner).2 → inner j = false) ∧
    ((repeatTest n inner).1 = false → (repeatTest n inner).2 = n) := by
  obtain ⟨i1, i2, i3⟩ := repeatLoop_spec inner n 0
  rw [Nat.zero_add] at i1 i3
  -- `0 < i` is `1 ≤ i`
  exact ⟨i1, fun h => ⟨(i2 h).2.2.1, (i2 h).2.2.2⟩, i3⟩

theorem C19_repeat_args (cookie : String) (args : List String) (i : Nat) :
    repeatArgs cookie args i = args.map (fun s => s.replace cookie (toString i)) := rfl

example : repeatTest 5 (fun i => i == 3) = (true, 3) ∧ repeatTest 2 (fun i => i == 3) = (false, 2) := by
  decide +kernel

end Interest
