/-
C20 — Each run gets a fresh temp directory, even under races and faults.
-/
import LithiumProofs.TempDirNames
import LithiumProofs.Util

namespace TempDir

/-! ### the listing as NAMES: what merely looks like a numbered directory takes no number away -/

/-- for EVERY directory listing (any names at all): the run gets `tmpN` with N the lowest number ≥ 1 such that
exactly the name `"tmp" ++ str N` is not there; `tmp01`, `tmp1.bak`, `Tmp1`, `tmp` are other names -/
theorem C20_sequential_names (names : List String) :
    ∃ n, createTempDirN names (fun _ => none) = .ok n ∧ 1 ≤ n ∧ dirName n ∉ names ∧
      ∀ j, 1 ≤ j → j < n → dirName j ∈ names := by
  obtain ⟨n, h1, h2, h3, h4⟩ := seqLoopN_spec names (names.length + 1) 1
  refine ⟨n, h1, h2, h4.resolve_right (fun e => ?_), h3⟩
  -- running out of fuel would put `tmp1 .. tmp(|names|+1)` all in the listing
  have := le_length_of_names_mem names 1 (names.length + 1) (fun j hj1 hj2 => h3 j hj1 (by omega))
  omega

/-- two listings that agree on which exact names `tmp<i>` exist give the same directory, whatever else they hold -/
theorem C20_lookalikes_irrelevant (names names' : List String)
    (h : ∀ i, dirName i ∈ names ↔ dirName i ∈ names') :
    createTempDirN names (fun _ => none) = createTempDirN names' (fun _ => none) := by
  obtain ⟨n, h1, h2, h3, h4⟩ := C20_sequential_names names
  obtain ⟨n', h1', h2', h3', h4'⟩ := C20_sequential_names names'
  rw [h1, h1']
  have : n = n' := by
    rcases Nat.lt_trichotomy n n' with hlt | heq | hgt
    · exact absurd ((h n).mpr (h4' n h2 hlt)) h3
    · exact heq
    · exact absurd ((h n').mp (h4 n' h2' hgt)) h3'
  rw [this]

/-- the name-level loop is the number-level one of `C20_sequential`/`C20_concurrent` under the obvious reading of a listing -/
theorem C20_names_refine (names : List String) (taken : List Nat) (faults : Nat → Option Nat)
    (h : ∀ i, taken.contains i = names.contains (dirName i)) (fuel i : Nat) :
    seqLoopN names faults fuel i = seqLoop taken faults fuel i :=
  seqLoopN_eq_seqLoop names taken faults h fuel i

theorem C20_fault_names (names : List String) (faults : Nat → Option Nat) (e : Nat) (h : faults 1 = some e) :
    createTempDirN names faults = .error e := by
  simp [createTempDirN, seqLoopN, h]

/-- non-vacuity: zero-padded and decorated look-alikes next to a real `tmp2` -/
example : createTempDirN ["tmp01", "tmp002", "tmp2", "tmp", "tmp1.bak", "Tmp1"] (fun _ => none) = .ok 1 := by rfl
example : createTempDirN ["tmp01", "tmp1", "tmp2", "tmp"] (fun _ => none) = .ok 3 := by rfl

/-! ### the listing as a set of taken NUMBERS -/

/-- without faults, for EVERY set of taken numbers: the run gets `tmpN` with N the lowest number
≥ 1 that is not taken (so an existing directory or file is never reused) -/
theorem C20_sequential (taken : List Nat) :
    ∃ n, createTempDir taken (fun _ => none) = .ok n ∧ 1 ≤ n ∧ ¬ taken.contains n ∧
      ∀ j, 1 ≤ j → j < n → taken.contains j := by
  rw [createTempDir_eq_names]
  obtain ⟨n, h1, h2, h3, h4⟩ := C20_sequential_names (taken.map dirName)
  simp only [mem_map_dirName] at h3 h4
  exact ⟨n, h1, h2, by simpa using h3, by simpa using h4⟩

/-- if `mkdir` fails for any reason other than the name being taken, the run stops with that
error at once — no retry with the next number -/
theorem C20_fault (taken : List Nat) (faults : Nat → Option Nat) (e : Nat) (h : faults 1 = some e) :
    createTempDir taken faults = .error e := by
  rw [createTempDir_eq_names]
  exact C20_fault_names _ faults e h

/-- for every number of runs, every set of pre-existing names and EVERY schedule of their
`mkdir` attempts (`mkdir` atomic): every run that has finished holds a directory it created itself,
that did not exist before, and no two runs hold the same one -/
theorem C20_concurrent (taken0 : List Nat) (k : Nat) (sched : List Nat) :
    let s := runSchedule (initSys taken0 k) sched
    (∀ (pid : Nat) (p : Proc) (n : Nat), s.procs[pid]? = some p → p.got = some n → (n, pid) ∈ s.created ∧ n ∉ taken0) ∧
    (∀ (pid1 pid2 : Nat) (p1 p2 : Proc) (n : Nat), s.procs[pid1]? = some p1 → s.procs[pid2]? = some p2 →
      p1.got = some n → p2.got = some n → pid1 = pid2) := by
  have hsafe := safe_run taken0 sched _ (safe_init taken0 k)
  exact ⟨fun pid p n hp hn => ⟨hsafe.got pid p hp n hn, hsafe.created_fresh _ (hsafe.got pid p hp n hn)⟩,
    fun pid1 pid2 p1 p2 n hp1 hp2 hn1 hn2 =>
      (Prod.mk.inj (Util.fst_inj_of_nodup _ hsafe.names_nodup _ _ (hsafe.got pid1 p1 hp1 n hn1) (hsafe.got pid2 p2 hp2 n hn2) rfl)).2⟩

/-- non-vacuity: three runs, tmp1 and tmp3 taken, an interleaved schedule -/
example :
    ((runSchedule (initSys [1, 3] 3) [0, 1, 2, 0, 1, 2, 2, 1, 2, 2, 1, 1, 1]).procs.map (·.got)) = [some 2, some 5, some 4] := by
  decide +kernel

end TempDir
